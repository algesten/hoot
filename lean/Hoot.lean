-- executable model of the crate
import Hoot.Model.Chunk
import Hoot.Model.Chunk2
import Hoot.Model.Flow
import Hoot.Model.HeadersMap
import Hoot.Model.Req
import Hoot.Model.ReqFast
import Hoot.Model.ReqParse
import Hoot.Model.Resp
import Hoot.Model.RespFast
import Hoot.Model.Scan
import Hoot.Model.Uri

-- vocabulary of the property statements (theorem-free)
import Hoot.Spec.Caller
import Hoot.Spec.CallerRecv
import Hoot.Spec.CallerSend
import Hoot.Spec.Chunked
import Hoot.Spec.Exchange
import Hoot.Spec.Flow
import Hoot.Spec.FlowOps
import Hoot.Spec.Head
import Hoot.Spec.Request

-- lemmas
import Hoot.Proofs.Analyze
import Hoot.Proofs.ChunkInv2
import Hoot.Proofs.ChunkLoop
import Hoot.Proofs.ChunkTotal
import Hoot.Proofs.FieldLine
import Hoot.Proofs.FlowInv
import Hoot.Proofs.FlowParts
import Hoot.Proofs.FlowSpecs
import Hoot.Proofs.FlowWF
import Hoot.Proofs.Fold
import Hoot.Proofs.HeadWrite
import Hoot.Proofs.HeadersMap
import Hoot.Proofs.PartialParse
import Hoot.Proofs.ReqProof
import Hoot.Proofs.RespMono
import Hoot.Proofs.RespProof
import Hoot.Proofs.SendFresh
import Hoot.Proofs.SizeField
import Hoot.Proofs.Writer
import Hoot.Proofs.WriterLink

-- whole-exchange composition, on top of the per-phase properties
import Hoot.Compose.Exchange
import Hoot.Compose.ExchangeAll
import Hoot.Compose.ExchangeChain
import Hoot.Compose.ExchangeRefuse
import Hoot.Compose.ExchangeSend

-- property theorems C01–C20
import Hoot.Props.C01
import Hoot.Props.C02
import Hoot.Props.C02uniq
import Hoot.Props.C03
import Hoot.Props.C03rt
import Hoot.Props.C04
import Hoot.Props.C05
import Hoot.Props.C06
import Hoot.Props.C07
import Hoot.Props.C08
import Hoot.Props.C09
import Hoot.Props.C10
import Hoot.Props.C10x
import Hoot.Props.C11
import Hoot.Props.C12
import Hoot.Props.C13
import Hoot.Props.C14
import Hoot.Props.C15
import Hoot.Props.C16
import Hoot.Props.C17
import Hoot.Props.C18
import Hoot.Props.C19
import Hoot.Props.C20
import Hoot.Props.RedirectX

-- line-protocol driver
import Hoot.Driver.Replay
import Hoot.Driver.Text
import Hoot.Driver.XRun

-- executable oracles (Oracle.All defines a second `noPanic` and is imported by Main.lean only)
import Hoot.Oracle.BodyR
import Hoot.Oracle.BodyW
import Hoot.Oracle.Exchange
import Hoot.Oracle.Expect
import Hoot.Oracle.FlowO
import Hoot.Oracle.Heads
import Hoot.Oracle.Redirect
import Hoot.Oracle.ReqHead
import Hoot.Oracle.Trace
