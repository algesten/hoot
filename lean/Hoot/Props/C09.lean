import Hoot.Model.Uri
import Hoot.Proofs.FlowWF
import Hoot.Proofs.SendFresh

/-! # C09 — flows follow the documented state graph; readiness agrees with advancing

`Flow.step` is the whole public API of the eight typestates (one function per state in Model/Flow.lean);
`Flow.WF` (Spec/FlowOps.lean) is the invariant: holder variant matches the typestate, body-due flag
matches the holder, writer/reader present where the state needs them, list capacities respected.
`Op.okFor` are the two protocol rules beyond the types (header budget; `try_read_100` only while
`can_keep_await_100()` is true). A second `as_new_flow` on the same redirect
flow is the recorded finding D11 (`d11Flow` below, evaluated). -/

theorem C09_init (m : Method) (v : Version) (u : Uri) (orig : List Hdr) : (Flow.new m v u orig).WF :=
  Flow.new_wf m v u orig

/-- **C09 (no panic, always usable).** Any sequence of permitted calls — every operation of every state,
    with arbitrary bytes and buffer sizes, premature advance attempts included — never panics, and the
    flow it leaves is well-formed, i.e. every operation of its (possibly new) state is again defined. -/
theorem C09_history (hack : Bool) (ops : List Op) : ∀ (f : Flow), f.WF → okAlong hack f ops →
    (∀ r ∈ (runOps hack f ops).2, noPanic r) ∧ (runOps hack f ops).1.WF := by
  induction ops with
  | nil => intro f hwf _; exact ⟨by simp [runOps], hwf⟩
  | cons op ops ih =>
    intro f hwf hok
    obtain ⟨h1, h2⟩ := wf_step hack f op hwf hok.1
    obtain ⟨g1, g2⟩ := ih (f.step hack op).1 h2 hok.2
    exact ⟨List.forall_mem_cons.mpr ⟨h1, g1⟩, g2⟩

/-- **C09 (readiness).** In each state with a readiness query, advancing yields a successor exactly when
    the query is true, and nothing (flow unchanged) exactly when it is false. -/
theorem C09_ready (hack : Bool) (f : Flow) (hwf : f.WF)
    (hs : f.st = .sendRequest ∨ f.st = .sendBody ∨ f.st = .recvResponse ∨ f.st = .recvBody) :
    (f.canProceed = .ok false → f.step hack .proceed = (f, .none)) ∧
    (f.canProceed = .ok true → ∃ s, (f.step hack .proceed).2 = .state s ∧ (f.step hack .proceed).1.st = s) := by
  refine ⟨proceed_not_ready hack, fun hc => ?_⟩
  rcases hwf.proceed hack with ⟨hc0, _⟩ | ⟨_, g, e, hg, _⟩ | ⟨hcl, _⟩
  · cases hc0.symm.trans hc
  · rw [e]
    exact ⟨_, rfl, hg⟩
  · rcases hs with h | h | h | h <;> cases h.symm.trans hcl

/-- **C09 (edges).** Whenever advancing yields a state, it is the one the graph prescribes. -/
theorem C09_edges (hack : Bool) (f : Flow) (s : FState) (h : (f.step hack .proceed).2 = .state s) : s = graphSpec f :=
  (proceed_cases hack f).2 s h

theorem unsent_history (hack : Bool) (ops : List Op) : ∀ (f : Flow), f.WF → Unsent f → okAlong hack f ops →
    Unsent (runOps hack f ops).1 := by
  induction ops with
  | nil => intro f _ hu _; exact hu
  | cons op ops ih =>
    intro f hwf hu hok
    have hwf' := (wf_step hack f op hwf hok.1).2
    have hu' : Unsent (f.step hack op).1 := by
      by_cases hp : f.preBody
      · exact unsent_step hack f op hwf hu hp
      · intro _ hpre; exact absurd hpre (step_not_preBody hack f op hp)
    exact ih _ hwf' hu' hok.2

/-- **C09 (a flow that advanced is fully usable in its new state — the body state).** After ANY history of
    permitted calls on a fresh flow — header additions, send-body-despite-method, any number of head writes
    including further ones after the head is complete (D12), readiness queries, premature advance attempts,
    `try_read_100` on arbitrary bytes — the step that enters the body state hands over a body writer that has not
    ended: the body state's readiness query is false, so advancing from it yields nothing (`C09_ready`) until the
    caller has written, reported or ended the body there. -/
theorem C09_body_state_fresh (hack : Bool) (m : Method) (v : Version) (u : Uri) (orig : List Hdr) (ops : List Op)
    (hok : okAlong hack (Flow.new m v u orig) ops)
    (he : ((runOps hack (Flow.new m v u orig) ops).1.step hack .proceed).2 = .state .sendBody) :
    ((runOps hack (Flow.new m v u orig) ops).1.step hack .proceed).1.st = .sendBody ∧
    ((runOps hack (Flow.new m v u orig) ops).1.step hack .proceed).1.call.writer.ended = false ∧
    ((runOps hack (Flow.new m v u orig) ops).1.step hack .proceed).1.canProceed = .ok false ∧
    (((runOps hack (Flow.new m v u orig) ops).1.step hack .proceed).1.step hack .proceed).2 = .none := by
  have hwf := (C09_history hack ops _ (Flow.new_wf m v u orig) hok).2
  have hu := unsent_history hack ops _ (Flow.new_wf m v u orig) (Flow.new_unsent m v u orig) hok
  generalize (runOps hack (Flow.new m v u orig) ops).1 = f at hwf hu he ⊢
  obtain ⟨hst, hsb, _⟩ := proceed_sendBody hack f he
  have hb : f.holder = .withBody := by
    rcases hst with e | e
    · exact (hwf.send (.inr e)).mp hsb
    · simpa [holderOk, e] using hwf.holder
  obtain ⟨h1, _, h3, h4⟩ := enter_sendBody_fresh hack f hu (.inr hst) hb he
  exact ⟨h1, h3, h4, by rw [proceed_not_ready hack h4]⟩

/-- **C09 (following a redirect).** The flow produced by `as_new_flow` is well-formed: a complete, usable
    flow in the prepare state. -/
theorem followFlow_wf (prev : AReq) (nm : Method) (uri : Uri) (sameHost : Bool) : (followFlow prev nm uri sameHost).WF :=
  -- the override and the suppression list only show in `headers`, which the invariant reads once analysed
  { Flow.new_wf nm prev.version prev.uri prev.orig with hdrs := nofun }

theorem C09_follow_wf (f : Flow) (sameHost : Bool) (nf : Flow)
    (h : (f.asNewFlow sameHost).2 = FollowRes.flow nf) : nf.WF := by
  obtain ⟨_, _, _, uri, nm, _, _, rfl⟩ := asNewFlow_flow h
  exact followFlow_wf _ nm uri sameHost

/-- **D11 witness (evaluated).** After `as_new_flow` returned a flow, a second call on the same redirect
    flow panics (`take_request` left an empty request). -/
def d11Flow : Flow :=
  { (Flow.new .get .h11 { scheme := "http", host := "a.test", port := none, path := "/", query := none } []) with
    st := .redirect, holder := .recvBody, status := some 302, location := some "/x".toUTF8.toList,
    call := { req := { method := .get, version := .h11, uri := { scheme := "http", host := "a.test", port := none, path := "/", query := none }, orig := [] },
              writer := BodyWriter.newNone, reader := some .noBody, analyzed := true } }
#guard (match (d11Flow.asNewFlow false).2 with | .flow _ => true | _ => false)
#guard (match ((d11Flow.asNewFlow false).1.asNewFlow false).2 with | .fault (.panic _) => true | _ => false)

example : (Flow.new .post .h11 { scheme := "http", host := "a", port := none, path := "/", query := none } []).WF := C09_init _ _ _ _

-- the hypotheses of `C09_body_state_fresh` are met by a history that writes the head twice (the D12 shape):
-- POST without framing headers, head written, written again, then advance (evaluated, not kernel-reduced)
def c09FreshExample : Bool :=
  let u : Uri := { scheme := "http", host := "a.test", port := none, path := "/p", query := none }
  let f := (runOps false (Flow.new .post .h11 u []) [.proceed, .write 1000, .write 1000, .canProceed]).1
  match f.step false .proceed with
  | (f', .state .sendBody) => (match f'.canProceed with | .ok false => true | _ => false) && !f'.call.writer.ended
  | _ => false
#guard c09FreshExample
