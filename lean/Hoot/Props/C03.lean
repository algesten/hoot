import Hoot.Model.Flow
import Hoot.Proofs.WriterLink
import Hoot.Props.C04

/-! # C03 — chunked request body is a valid chunked encoding of exactly the consumed input

Statements are about `CallSt.writeBodyPhase` (call.rs `Call<WithBody>::write` in the body phase: the two
guards followed by body.rs `BodyWriter::write`), for every sequence of (input, output size) pairs. -/

/-- collects the bytes emitted and the input bytes reported consumed; a refused write contributes nothing -/
def runBody (c : CallSt) : List (Bytes × Nat) → CallSt × Bytes × Bytes
  | [] => (c, [], [])
  | (input, cap) :: ops =>
    match c.writeBodyPhase input cap with
    | (c1, .ok (n, out)) =>
      let r := runBody c1 ops
      (r.1, out ++ r.2.1, input.take n ++ r.2.2)
    | (c1, .error _) => runBody c1 ops

/-- one write on an open chunked body: it emits the chunks `cs`, reports `n` bytes consumed and leaves the body ended or not (`e`) -/
structure ChunkedWrite (c : CallSt) (input : Bytes) (cap : Nat) (cs : List Bytes) (n : Nat) (e : Bool) : Prop where
  eq : c.writeBodyPhase input cap = ({ c with writer := { mode := .chunked, ended := e } }, .ok (n, wireOf cs e))
  chunks_ne : ∀ x ∈ cs, x ≠ []
  flatten : cs.flatten = input.take n
  consumed_le : n ≤ input.length
  fits : (wireOf cs e).length ≤ cap
  nil_input : input = [] → cs = [] ∧ n = 0
  ended_iff : e = true ↔ input = [] ∧ 5 ≤ cap

theorem writeBodyPhase_open (c : CallSt) (input : Bytes) (cap : Nat)
    (hm : c.writer.mode = .chunked) (he : c.writer.ended = false) : ∃ cs n e, ChunkedWrite c input cap cs n e := by
  by_cases hi : input = []
  · -- nothing but the terminator, if it fits
    subst hi
    exact ⟨[], 0, decide (5 ≤ cap),
      { eq := writeBodyPhase_chunked_nil c cap hm he
        chunks_ne := nofun
        flatten := rfl
        consumed_le := Nat.le_refl 0
        fits := by
          rw [wireOf_nil]
          split
          · exact of_decide_eq_true ‹_›
          · exact Nat.zero_le cap
        nil_input := fun _ => ⟨rfl, rfl⟩
        ended_iff := ⟨fun h => ⟨rfl, of_decide_eq_true h⟩, fun h => decide_eq_true h.2⟩ }⟩
  · obtain ⟨cs, hne, hfl, hfit, h⟩ := writeBodyPhase_chunked c cap hm he hi
    exact ⟨cs, consumedLen input.length cap, false,
      { eq := by rw [h, wireOf_false, ← BodyWriter.eq_mk hm he]
        chunks_ne := hne
        flatten := hfl
        consumed_le := consumedLen_le _ _
        fits := by rwa [wireOf_false]
        nil_input := fun h => absurd h hi
        ended_iff := ⟨nofun, fun h => absurd h.1 hi⟩ }⟩

theorem C03_step_open (c : CallSt) (input : Bytes) (cap : Nat)
    (hm : c.writer.mode = .chunked) (he : c.writer.ended = false) :
    ∃ (cs : List Bytes) (n : Nat) (e : Bool),
      (c.writeBodyPhase input cap) = ({ c with writer := { mode := .chunked, ended := e } }, .ok (n, wireOf cs e)) ∧
      (∀ x ∈ cs, x ≠ []) ∧ cs.flatten = input.take n ∧ n ≤ input.length ∧
      (wireOf cs e).length ≤ cap ∧
      (e = true → input = [] ∧ cs = []) ∧ (input = [] → cs = [] ∧ n = 0 ∧ (e = true ↔ 5 ≤ cap)) := by
  obtain ⟨cs, n, e, h⟩ := writeBodyPhase_open c input cap hm he
  exact ⟨cs, n, e, h.eq, h.chunks_ne, h.flatten, h.consumed_le, h.fits,
    fun he => ⟨(h.ended_iff.mp he).1, (h.nil_input (h.ended_iff.mp he).1).1⟩,
    fun hi => ⟨(h.nil_input hi).1, (h.nil_input hi).2, fun he => (h.ended_iff.mp he).2, fun h5 => h.ended_iff.mpr ⟨hi, h5⟩⟩⟩

theorem C03_step_ended (c : CallSt) (input : Bytes) (cap : Nat)
    (hm : c.writer.mode = .chunked) (he : c.writer.ended = true) :
    (input ≠ [] → c.writeBodyPhase input cap = (c, .error (.api .bodyContentAfterFinish))) ∧
    (input = [] → c.writeBodyPhase input cap = (c, .ok (0, []))) := by
  refine ⟨fun hi => C04_refuse_after c input cap hi he, fun hi => ?_⟩
  subst hi
  unfold CallSt.writeBodyPhase
  simp [hm, he, BodyWriter.overLimit, BodyWriter.leftToSend, BodyWriter.write]

/-- **C03 (terminator).** The terminator is emitted only by an empty-input write, at most once: once the
    body is finished every further write emits nothing and changes nothing. -/
theorem C03_after_finish (c : CallSt) (hm : c.writer.mode = .chunked) (he : c.writer.ended = true)
    (ops : List (Bytes × Nat)) : runBody c ops = (c, [], []) := by
  induction ops with
  | nil => rfl
  | cons op ops ih =>
    obtain ⟨input, cap⟩ := op
    have h := C03_step_ended c input cap hm he
    by_cases hi : input = []
    · simp only [runBody, h.2 hi, ih]
      simp [hi]
    · simp only [runBody, h.1 hi, ih]

/-- **C03 (wire format).** For every sequence of body writes on a chunked body, the emitted bytes are
    a sequence of complete non-empty chunks, followed by the terminator exactly when the body is
    reported finished; the chunk data is exactly the input reported consumed. -/
theorem C03_wire (ops : List (Bytes × Nat)) : ∀ (c : CallSt),
    c.writer.mode = .chunked → c.writer.ended = false →
    ∃ cs : List Bytes, (∀ x ∈ cs, x ≠ []) ∧
      (runBody c ops).2.1 = wireOf cs (runBody c ops).1.writer.ended ∧
      cs.flatten = (runBody c ops).2.2 ∧
      (runBody c ops).1.writer.mode = .chunked := by
  induction ops with
  | nil =>
    intro c hm he
    exact ⟨[], nofun, by simp [runBody, wireOf, he], rfl, hm⟩
  | cons op ops ih =>
    intro c hm he
    obtain ⟨input, cap⟩ := op
    obtain ⟨cs, n, e, hw⟩ := writeBodyPhase_open c input cap hm he
    simp only [runBody, hw.eq]
    cases e with
    | false =>
      obtain ⟨cs2, g1, g2, g3, g4⟩ := ih { c with writer := { mode := .chunked, ended := false } } rfl rfl
      refine ⟨cs ++ cs2, List.forall_mem_append.mpr ⟨hw.chunks_ne, g1⟩, ?_, ?_, g4⟩
      · rw [g2]
        simp [wireOf, List.append_assoc]
      · rw [List.flatten_append, hw.flatten, g3]
    | true =>
      rw [C03_after_finish _ rfl rfl ops]
      refine ⟨cs, hw.chunks_ne, by simp, ?_, rfl⟩
      simp [hw.flatten]

/-- **C03 (finished iff terminator emitted)** for one write: the body becomes finished exactly when
    this write emitted the complete terminator, which needs an empty input and 5 bytes of space. -/
theorem C03_finished_iff (c : CallSt) (input : Bytes) (cap : Nat)
    (hm : c.writer.mode = .chunked) (he : c.writer.ended = false) :
    (c.writeBodyPhase input cap).1.writer.ended = true ↔ (input = [] ∧ 5 ≤ cap) := by
  obtain ⟨cs, n, e, hw⟩ := writeBodyPhase_open c input cap hm he
  rw [hw.eq]
  exact hw.ended_iff

/-- non-vacuity: a chunked call in the body phase exists, and a concrete run -/
def c03Example : CallSt :=
  { req := { method := .post, version := .h11, uri := { scheme := "http", host := "a", port := none, path := "/", query := none }, orig := [] },
    analyzed := true, phase := .sendBody, writer := BodyWriter.newChunked }

example : c03Example.writer.mode = .chunked ∧ c03Example.writer.ended = false := by decide
-- a test (evaluated by the compiler, not a proof): "3 CRLF 1 2 3 CRLF" then the terminator
#guard (runBody c03Example [([1, 2, 3], 20), ([], 5)]).2.1 == [51, 13, 10, 1, 2, 3, 13, 10, 48, 13, 10, 13, 10]
