import Hoot.Model.Uri
import Hoot.Props.C09
import Hoot.Proofs.HeadersMap

/-! # C13 — redirects never leak credentials or stale framing to the next request

`followFlow prev nm uri sameHost` is the flow `as_new_flow` builds from the request `prev` inside the
redirect flow. -/

/-- **C13 (chain).** The request inside the new flow is the ORIGINAL request with only the method changed;
    the target lives in the URI override. So at every hop of a chain `prev.uri` is the original URI, and
    the policy comparison below is against the original host and scheme, whatever hosts lie in between. -/
theorem C13_chain (prev : AReq) (nm : Method) (uri : Uri) (sameHost : Bool) :
    (followFlow prev nm uri sameHost).call.req.uri = prev.uri ∧
    (followFlow prev nm uri sameHost).call.req.orig = prev.orig ∧
    (followFlow prev nm uri sameHost).call.req.version = prev.version ∧
    (followFlow prev nm uri sameHost).call.req.method = nm ∧
    (followFlow prev nm uri sameHost).call.req.uriOverride = some uri ∧
    (followFlow prev nm uri sameHost).call.req.added = [] := by
  simp [followFlow, Flow.new]

theorem keepAuthHeader_iff (sameHost : Bool) (o t : Uri) :
    keepAuthHeader sameHost o t = true ↔ (sameHost = true ∧ o.host = t.host ∧ (o.scheme = t.scheme ∨ t.scheme = "https")) := by
  simp [keepAuthHeader]

theorem mem_unsetList {n : String} {keepAuth keepHost : Bool} :
    n ∈ unsetList keepAuth keepHost ↔
      (n = "authorization" ∧ keepAuth = false) ∨ (n = "host" ∧ keepHost = false) ∨ n = "cookie" ∨ n = "content-length" := by
  cases keepAuth <;> cases keepHost <;> simp [unsetList]

theorem mem_followFlow_headers {prev : AReq} {nm : Method} {uri : Uri} {sameHost : Bool} {h : Hdr} :
    h ∈ (followFlow prev nm uri sameHost).call.req.headers ↔
      h ∈ prev.orig ∧ h.name ∉ unsetList (keepAuthHeader sameHost prev.uri uri) (keepHostHeader prev.uri uri) := by
  simp [followFlow, Flow.new, AReq.headers]

/-- **C13 (no Cookie, no Content-Length, Authorization only under the policy).** Every effective header of
    the request created for a redirect: it is not named `cookie` or `content-length`; and if it is named
    `authorization` then the caller chose same-host, the target host equals the original host, and the
    target scheme equals the original one or is https. With `never` it is never present. -/
theorem C13 (prev : AReq) (nm : Method) (uri : Uri) (sameHost : Bool) (h : Hdr)
    (hin : h ∈ (followFlow prev nm uri sameHost).call.req.headers) :
    h.name ≠ "cookie" ∧ h.name ≠ "content-length" ∧
    (h.name = "authorization" → sameHost = true ∧ prev.uri.host = uri.host ∧ (prev.uri.scheme = uri.scheme ∨ uri.scheme = "https")) := by
  have hu := (mem_followFlow_headers.mp hin).2
  rw [mem_unsetList] at hu
  refine ⟨fun e => hu (.inr (.inr (.inl e))), fun e => hu (.inr (.inr (.inr e))), fun e => ?_⟩
  apply (keepAuthHeader_iff _ _ _).mp
  cases hk : keepAuthHeader sameHost prev.uri uri
  · exact absurd (.inl ⟨e, hk⟩) hu
  · rfl

/-- **C13 (as seen through `headers_map()`).** The accessor on a flow created for a redirect — after any
    caller additions `adds` in its prepare state — analyses the request and returns one entry per name.
    Every entry is either one of the new request's own headers (added by the caller for the target, or the
    `Host` / framing header request analysis derives for THIS request), or an inherited header, and then it
    is under C13's rule: not `cookie`, not `content-length`, `authorization` only under the policy. -/
theorem C13_headers_map (prev : AReq) (nm : Method) (uri : Uri) (sameHost : Bool) (c c1 : CallSt) (m : List Hdr)
    (horig : c.req.orig = prev.orig) (hunset : c.req.unset = (followFlow prev nm uri sameHost).call.req.unset)
    (hm : c.headersMap = (c1, .ok m)) (h : Hdr) (hin : h ∈ m) :
    h ∈ c1.req.added ∨
    (h ∈ prev.orig ∧ h.name ≠ "cookie" ∧ h.name ≠ "content-length" ∧
      (h.name = "authorization" → sameHost = true ∧ prev.uri.host = uri.host ∧ (prev.uri.scheme = uri.scheme ∨ uri.scheme = "https"))) := by
  obtain ⟨hc1, rfl⟩ := headersMap_ok hm
  obtain ⟨extra, _, ho, hu, _⟩ := analyzeRequest_extra c
  have hh := headersMapOf_sub hin
  unfold AReq.headers at hh
  rw [List.mem_append] at hh
  rcases hh with hh | hh
  · left; rw [hc1]; exact hh
  · right
    rw [ho, hu, horig, hunset, List.mem_filter] at hh
    have hx : h ∈ (followFlow prev nm uri sameHost).call.req.headers :=
      mem_followFlow_headers.mpr ⟨hh.1, by simpa [followFlow] using hh.2⟩
    exact ⟨hh.1, C13 prev nm uri sameHost h hx⟩

/-- … and an entry named `cookie` or `content-length` is therefore one the caller attached to the new request or
    the new request's own framing. -/
theorem C13_headers_map_cookie (prev : AReq) (nm : Method) (uri : Uri) (sameHost : Bool) (c c1 : CallSt) (m : List Hdr)
    (horig : c.req.orig = prev.orig) (hunset : c.req.unset = (followFlow prev nm uri sameHost).call.req.unset)
    (hm : c.headersMap = (c1, .ok m)) (h : Hdr) (hin : h ∈ m) (hn : h.name = "cookie" ∨ h.name = "content-length") :
    h ∈ c1.req.added := by
  rcases C13_headers_map prev nm uri sameHost c c1 m horig hunset hm h hin with hh | ⟨_, h1, h2, _⟩
  · exact hh
  · rcases hn with e | e
    · exact absurd e h1
    · exact absurd e h2

/-- the suppression list never exceeds its four slots (authorization, host, cookie, content-length) -/
theorem C13_cap (b c : Bool) : (unsetList b c).length ≤ 4 := by cases b <;> cases c <;> simp [unsetList]

/-- every flow returned by `as_new_flow` is such a `followFlow` of the request that was just made -/
theorem C13_asNewFlow (f : Flow) (sameHost : Bool) (nf : Flow) (h : (f.asNewFlow sameHost).2 = .flow nf) :
    ∃ nm uri, nf = followFlow f.call.req nm uri sameHost := by
  obtain ⟨_, _, _, uri, nm, _, _, e⟩ := asNewFlow_flow h
  exact ⟨nm, uri, e⟩

example : keepAuthHeader true { scheme := "http", host := "a", port := none, path := "/", query := none }
    { scheme := "https", host := "a", port := none, path := "/x", query := none } = true := by decide

-- the hypotheses of `C13_headers_map` are met by a concrete redirect (a test: string order does not reduce
-- in the kernel): cross-host hop, caller attaches a cookie for the target; the map shows the caller's cookie,
-- the derived host, the inherited `x-a`, and neither the inherited cookie nor the authorization
def c13MapExample : Bool :=
  let u0 : Uri := { scheme := "http", host := "a", port := none, path := "/", query := none }
  let u1 : Uri := { scheme := "http", host := "b", port := none, path := "/x", query := none }
  let hs : List Hdr := [{ name := "cookie", value := [49] }, { name := "authorization", value := [50] }, { name := "x-a", value := [51] }]
  let prev : AReq := { method := .get, version := .h11, uri := u0, orig := hs }
  let nf := followFlow prev .get u1 true
  let r1 : AReq := { nf.call.req with added := [{ name := "cookie", value := [52] }] }
  let c : CallSt := { nf.call with req := r1 }
  match c.headersMap with
  | (_, .ok m) => m == [{ name := "cookie", value := [52] }, { name := "host", value := [98] }, { name := "x-a", value := [51] }]
  | _ => false
#guard c13MapExample

/-- **C13 (no downgrade).** A request first made over https and redirected to an http target never carries
    the original `Authorization`, on the same host or another, under either policy. -/
theorem C13_no_downgrade (prev : AReq) (nm : Method) (uri : Uri) (sameHost : Bool) (h : Hdr)
    (hin : h ∈ (followFlow prev nm uri sameHost).call.req.headers)
    (hs : prev.uri.scheme = "https") (ht : uri.scheme = "http") : h.name ≠ "authorization" := by
  intro e
  obtain ⟨_, _, h3⟩ := C13 prev nm uri sameHost h hin
  obtain ⟨_, _, h4⟩ := h3 e
  rw [hs, ht] at h4
  rcases h4 with h4 | h4 <;> exact absurd h4 (by decide)

/-- **C13 (other host).** Whatever the policy, a target on a host other than the ORIGINAL request's never
    receives the original `Authorization` — also when an earlier hop of the chain was on that other host. -/
theorem C13_other_host (prev : AReq) (nm : Method) (uri : Uri) (sameHost : Bool) (h : Hdr)
    (hin : h ∈ (followFlow prev nm uri sameHost).call.req.headers)
    (hh : prev.uri.host ≠ uri.host) : h.name ≠ "authorization" := by
  intro e
  obtain ⟨_, _, h3⟩ := C13 prev nm uri sameHost h hin
  exact hh (h3 e).2.1
