import Hoot.Model.Flow
import Hoot.Proofs.FlowSpecs
import Hoot.Proofs.FlowParts

/-! # C06 — response body framing follows the HTTP/1.1 message-body-length rules

`rfcFraming` (Spec/Flow.lean) is the rule list written from the property text; `framingOf` is the
abstract view of the two framing headers the code extracts (first value of each name, `to_str` failure
counts as absent, `u64::from_str`, comma-split / trim / case-insensitive `chunked`). The comparison of the
two decision procedures, `C06_abs` / `C06_mode`, is proved in Proofs/FlowSpecs.lean. -/

/-- **C06 (mode).** For every method, status, response version and header list the body mode chosen by
    `BodyReader::for_response` is the one the rules give; a non-numeric Content-Length is an error. -/
theorem C06 (respHttp10 : Bool) (m : Method) (status : Nat) (hs : List Hdr) :
    forResponse respHttp10 m status hs = rfcFraming respHttp10 m status (framingOf hs) :=
  C06_mode respHttp10 m status hs

theorem C06_bad_content_length (respHttp10 : Bool) (m : Method) (status : Nat) (hs : List Hdr)
    (h : (framingOf hs).cl = some none) :
    forResponse respHttp10 m status hs = .error (.api .badContentLengthHeader) := by
  rw [C06_mode]; unfold rfcFraming; simp [h]

/-- **C06 (successor).** The state after the head is the body state exactly when a non-empty body is
    expected, else the redirect state for 3xx other than 304, else cleanup. -/
theorem C06_successor (hack : Bool) (f : Flow) (rd : BodyReader)
    (hs : f.st = .recvResponse) (hh : f.holder = .recvResponse) (hr : f.call.reader = some rd)
    (hn : f.closeReasons.Nodup) :
    (stepRecvResponse hack f .proceed).2 =
      .state (if successorSpec rd (f.status.getD 0) = "recvBody" then .recvBody
              else if successorSpec rd (f.status.getD 0) = "redirect" then .redirect else .cleanup) ∧
    (stepRecvResponse hack f .proceed).1.st =
      (if successorSpec rd (f.status.getD 0) = "recvBody" then .recvBody
       else if successorSpec rd (f.status.getD 0) = "redirect" then .redirect else .cleanup) := by
  have hg : graphSpec f = (if successorSpec rd (f.status.getD 0) = "recvBody" then .recvBody
      else if successorSpec rd (f.status.getD 0) = "redirect" then .redirect else .cleanup) := by
    unfold graphSpec
    simp only [hs, hr, isRedirectStatus_iff]
    cases rd with
    | noBody =>
      by_cases h3 : 300 ≤ f.status.getD 0 ∧ f.status.getD 0 ≤ 399 ∧ f.status.getD 0 ≠ 304 <;>
        simp [needResponseBody, successorSpec, h3]
    | len n =>
      cases n with
      | zero =>
        by_cases h3 : 300 ≤ f.status.getD 0 ∧ f.status.getD 0 ≤ 399 ∧ f.status.getD 0 ≠ 304 <;>
          simp [needResponseBody, successorSpec, h3]
      | succ k => simp [needResponseBody, successorSpec]
    | chunked d => simp [needResponseBody, successorSpec]
    | close => simp [needResponseBody, successorSpec]
  rw [stepRecvResponse_proceed hack hs hh hr hn]
  exact ⟨congrArg Res.state hg, hg⟩

example : rfcFraming false .get 200 { cl := some (some 5), chunked := true } = .ok (.chunked .size) := by
  simp [rfcFraming]

/-- **C06 (the coding name is compared whole).** The token comparison behind "declares a chunked transfer
    coding" matches only a token of exactly the length of `chunked`: no prefix of the word, no extension of it,
    no empty list element counts as the chunked coding. -/
theorem C06_token_exact (a lit : Bytes) (h : eqLowerAscii a lit = true) : a.length = lit.length := by
  unfold eqLowerAscii at h
  simp only [Bool.and_eq_true, beq_iff_eq] at h
  exact h.1

-- near-misses of the word, evaluated (tests, labelled as tests)
#guard !(eqLowerAscii (strBytes "chunk") (strBytes "chunked"))
#guard !(eqLowerAscii (strBytes "chunked-v2") (strBytes "chunked"))
#guard !(eqLowerAscii (strBytes "") (strBytes "chunked"))
#guard !(eqLowerAscii (trimAscii (strBytes "chunked" ++ [0xc2, 0xa0])) (strBytes "chunked"))   -- U+00A0 is no optional whitespace
#guard (eqLowerAscii (trimAscii (strBytes "chunked ")) (strBytes "chunked"))
#guard (eqLowerAscii (trimAscii (strBytes " \tCHUNKed ")) (strBytes "chunked"))
