import Hoot.Model.Flow
import Hoot.Proofs.FlowParts

/-! # C08 — length- and close-delimited response bodies arrive verbatim, never over-read -/

/-- **C08 (one read, length-delimited).** Each read moves `min(input, output space, remaining)` bytes
    unchanged; the remaining count goes down by exactly that. -/
theorem C08_len_step (c : CallSt) (left : Nat) (w : Bytes) (cap : Nat) (h : c.reader = some (.len left)) :
    c.read w cap =
      ({ c with reader := some (.len (left - min (min w.length cap) left)) },
       .ok (min (min w.length cap) left, w.take (min (min w.length cap) left))) := by
  have hc : c = { c with reader := some (.len left) } := by rw [← h]
  unfold CallSt.read
  simp only [h, readerEnded]
  cases left with
  | zero => simpa using hc
  | succ n => rfl

/-- a caller schedule: (how many of the unconsumed bytes are offered, output space) -/
def runLen (c : CallSt) (stream : Bytes) : List (Nat × Nat) → CallSt × Nat × Bytes
  | [] => (c, 0, [])
  | (m, cap) :: rest =>
    match c.read (stream.take m) cap with
    | (c1, .ok (n, out)) =>
      let r := runLen c1 (stream.drop n) rest
      (r.1, n + r.2.1, out ++ r.2.2)
    | (c1, .error _) => (c1, 0, [])

/-- **C08 (length-delimited).** With `N` bytes remaining, every schedule delivers, unchanged and in
    order, a prefix of the next `N` bytes of the stream; what is consumed equals what is delivered; no
    byte beyond `N` is consumed; and the body is complete exactly when `N` bytes were delivered. -/
theorem C08_len (σ : List (Nat × Nat)) : ∀ (c : CallSt) (N : Nat) (stream : Bytes), c.reader = some (.len N) →
    ∃ k, k ≤ N ∧ (runLen c stream σ).2.1 = k ∧ (runLen c stream σ).2.2 = stream.take k ∧ k ≤ stream.length ∧
      (runLen c stream σ).1.reader = some (.len (N - k)) ∧
      (readerEnded (.len (N - k)) = true ↔ k = N) := by
  induction σ with
  | nil =>
    intro c N stream h
    refine ⟨0, by omega, rfl, by simp [runLen], by omega, by simpa [runLen] using h, ?_⟩
    simp [readerEnded]; omega
  | cons s rest ih =>
    intro c N stream h
    obtain ⟨m, cap⟩ := s
    have hstep := C08_len_step c N (stream.take m) cap h
    simp only [runLen, hstep]
    generalize hk : min (min (stream.take m).length cap) N = k
    have hkm : k ≤ (stream.take m).length := by omega
    have hks : k ≤ stream.length := by simp [List.length_take] at hkm; omega
    obtain ⟨k2, a1, a2, a3, a4, a5, a6⟩ := ih { c with reader := some (.len (N - k)) } (N - k) (stream.drop k) rfl
    refine ⟨k + k2, by omega, by rw [a2], ?_, ?_, ?_, ?_⟩
    · rw [a3]
      rw [List.take_take, Nat.min_eq_left (by rw [List.length_take] at hkm; omega), List.take_add]
    · simp at a4; omega
    · rw [a5]; congr 2; omega
    · simp [readerEnded] at a6 ⊢; omega

/-- **C08 (close-delimited).** Every offered byte that fits the output is passed through unchanged; the
    reader never ends by itself. -/
theorem C08_close_step (c : CallSt) (w : Bytes) (cap : Nat) (h : c.reader = some .close) :
    c.read w cap = (c, .ok (min w.length cap, w.take (min w.length cap))) := by
  unfold CallSt.read
  simp [h, readerEnded]

/-- **C08 (close-delimited, flow).** In the body state of a close-delimited response the flow may
    proceed at any time. -/
theorem C08_close_can_proceed (f : Flow) (hs : f.st = .recvBody) (hh : f.holder = .recvBody) (h : f.call.reader = some .close) :
    f.canProceed = .ok true := by
  unfold Flow.canProceed; simp [hs, hh, h]

/-- **C08 (close-delimited, must close).** Entering the body state of a close-delimited response records
    the close reason, so the connection is marked for closing from then on. -/
theorem C08_close_marks (hack : Bool) (f : Flow) (hs : f.st = .recvResponse) (hh : f.holder = .recvResponse)
    (h : f.call.reader = some .close) (hn : f.closeReasons.Nodup) :
    (stepRecvResponse hack f .proceed).1.st = .recvBody ∧
    CloseReason.closeDelimited ∈ (stepRecvResponse hack f .proceed).1.closeReasons := by
  obtain ⟨l, hp, _, hm⟩ := pushReason_eq f.closeReasons .closeDelimited hn
  rw [stepRecvResponse_proceed hack hs hh h hn, hp]
  exact ⟨by simp [graphSpec, hs, h, needResponseBody], (hm _).mpr (.inr rfl)⟩

/-- the body, redirect and cleanup states never remove a close reason -/
theorem C08_reasons_kept (f : Flow) (op : Op) :
    (stepRecvBody f op).1.closeReasons = f.closeReasons ∧ (stepRedirect f op).1.closeReasons = f.closeReasons ∧
    (stepCleanup f op).1.closeReasons = f.closeReasons :=
  ⟨stepRecvBody_reasons f op, stepRedirect_reasons f op, stepCleanup_reasons f op⟩

example : ({ req := { method := .get, version := .h11, uri := { scheme := "http", host := "a", port := none, path := "/", query := none }, orig := [] },
             writer := BodyWriter.newNone, reader := some (.len 5) } : CallSt).reader = some (.len 5) := rfl
