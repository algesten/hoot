import Hoot.Model.Flow
import Hoot.Proofs.ChunkTotal
import Hoot.Proofs.RespProof
import Hoot.Props.C09

/-! # C12 — no server byte sequence can panic, hang or desynchronise the client

For ARBITRARY bytes (no grammar hypothesis at all). "Hang" at model level is termination: every model
function is total, the two fuel-driven loops are shown to have enough fuel (`readChunkedS_total` uses
exactly the fuel `CallSt.read` passes). -/

/-- **C12 (body reads).** In any body framing, for arbitrary input bytes and output space, a read either
    fails with an API error or returns counts with consumed ≤ offered, produced ≤ output space and the
    produced bytes a subsequence — copies, in order — of the consumed input; it never panics, and the
    chunk decoder never rests in its transient trailer state (so the `assert!` there is unreachable). -/
theorem C12_read (c : CallSt) (rd : BodyReader) (hr : c.reader = some rd) (htr : rd ≠ .chunked .trailer)
    (w : Bytes) (cap : Nat) :
    (c.read w cap).1.reader ≠ some (.chunked .trailer) ∧
    (c.read w cap).1.reader.isSome = true ∧
    match (c.read w cap).2 with
    | .error (.panic _) => False
    | .error (.api _) => True
    | .ok (n, out) => n ≤ w.length ∧ out.length ≤ cap ∧ out.Sublist (w.take n) := by
  obtain ⟨⟨rd', h1, e⟩, hm⟩ := read_spec c rd hr htr w cap
  rw [e]
  exact ⟨by simpa using h1, rfl, hm⟩

/-- **C12 (head parsing).** For arbitrary bytes the response-head parser (any limit N — 128 for
    `try_response`, 0 for `try_read_100`) returns an API error, "need more data", or a response consuming
    at most what was offered; there is no panic outcome. -/
theorem C12_head (N : Nat) (w : Bytes) :
    match tryParseResponse N w with
    | .error (.panic _) => False
    | .error (.api _) => True
    | .ok none => True
    | .ok (some (n, _)) => n ≤ w.length := by
  unfold tryParseResponse parseResp
  cases hrun : runFrom respStep (respInit N) w 0 with
  | more s => simp
  | error e => cases e <;> simp
  | complete r used =>
    have := complete_used_le respStep (respInit N) w 0 r used hrun
    simp only []
    by_cases h1 : r.code < 100
    · simp [h1]
    · by_cases h2 : (r.fields.any fun f => decide (f.1.length > 65535)) = true
      · simp [h1, h2]
      · simp [h1, h2]; omega

/-- the partial parser used by the redirect fallback has no panic outcome either -/
theorem C12_partial (N : Nat) (w : Bytes) : ∀ s, tryParsePartial N w ≠ .error (.panic s) :=
  tryParsePartial_noPanic N w

/-- **C12 (afterwards).** Whatever bytes the server-facing calls were given, the state-advancing calls
    made afterwards do not panic either: this is `C09_history`, which quantifies over arbitrary byte
    arguments of every operation. -/
theorem C12_afterwards (hack : Bool) (ops : List Op) (f : Flow) (hwf : f.WF) (hok : okAlong hack f ops) :
    ∀ r ∈ (runOps hack f ops).2, noPanic r := (C09_history hack ops f hwf hok).1
