import Hoot.Model.Flow
import Hoot.Proofs.WriterLink
import Hoot.Props.C04

/-! # C18 — the advertised maximum input always fits the output buffer

`calcMaxInput` is body.rs `calculate_max_input`; the write is `CallSt.writeBodyPhase` (guards + body
writer). All statements are for every `n : Nat` (the code's `usize`; nothing here is near 2^64). -/

/-- **C18 (fits), chunked body.** An input of the advertised maximum size for `n` is consumed
    completely by a single write into an `n`-byte buffer, on any unfinished chunked body. -/
theorem C18_fits_chunked (c : CallSt) (n : Nat) (input : Bytes)
    (hm : c.writer.mode = .chunked) (he : c.writer.ended = false)
    (hlen : input.length = calcMaxInput n) :
    ∃ out, (c.writeBodyPhase input n).2 = .ok (calcMaxInput n, out) ∧ out.length ≤ n := by
  cases input with
  | nil =>
    rw [← hlen, writeBodyPhase_chunked_nil c n hm he, wireOf_nil]
    split
    · exact ⟨termBytes, rfl, of_decide_eq_true ‹_›⟩
    · exact ⟨[], rfl, Nat.zero_le n⟩
  | cons b bs =>
    obtain ⟨cs, _, _, hfit, h⟩ := writeBodyPhase_chunked c n hm he (List.cons_ne_nil b bs)
    rw [hlen, C18_fits] at h
    exact ⟨_, by rw [h], hfit⟩

/-- **C18 (length-delimited body).** The advertised size is `n` itself, and an input of `n` bytes is
    consumed completely by a single write into an `n`-byte buffer whenever the body still has `n` bytes to
    go (a larger input than the remaining length is refused — that is C04). -/
theorem C18_sized (c : CallSt) (left n : Nat) (input : Bytes)
    (hm : c.writer.mode = .sized left) (hlen : input.length = n) (hfit : n ≤ left)
    (hnf : ¬ (input ≠ [] ∧ c.writer.ended = true)) :
    (if !c.writer.isChunked then n else calcMaxInput n) = n ∧
    ∃ out, (c.writeBodyPhase input n).2 = .ok (n, out) := by
  constructor
  · simp [BodyWriter.isChunked, hm]
  · rw [C04_copy c left input n hm (by omega) hnf]
    have : min (min n input.length) left = n := by omega
    exact ⟨_, by rw [this]⟩

/-- **C18 (never exceeds n).** The advertised maximum input is at most the buffer size. -/
theorem C18_le_n (n : Nat) : calcMaxInput n ≤ n := by
  unfold calcMaxInput
  have := Nat.div_add_mod n 10248
  split <;> omega

/-- **C18 (never decreases).** A larger buffer never advertises a smaller maximum input. -/
theorem C18_monotone {a b : Nat} (h : a ≤ b) : calcMaxInput a ≤ calcMaxInput b := by
  unfold calcMaxInput
  have ha := Nat.div_add_mod a 10248
  have hb := Nat.div_add_mod b 10248
  have hdiv : a / 10248 ≤ b / 10248 := Nat.div_le_div_right h
  have hma : a % 10248 < 10248 := Nat.mod_lt _ (by omega)
  have hmb : b % 10248 < 10248 := Nat.mod_lt _ (by omega)
  by_cases heq : a / 10248 = b / 10248
  · rw [heq] at ha ⊢
    split <;> split <;> omega
  · have : a / 10248 + 1 ≤ b / 10248 := by omega
    split <;> split <;> omega

-- non-vacuity / boundary values (evaluated: tests, not proofs)
#guard calcMaxInput 10248 == 10240 && calcMaxInput 10257 == 10241 && calcMaxInput 8 == 0 && calcMaxInput 9 == 1
