import Hoot.Props.C02
import Hoot.Props.C03
import Hoot.Props.C04
import Hoot.Props.C05
import Hoot.Props.C07
import Hoot.Props.C08
import Hoot.Props.C09
import Hoot.Props.C10
import Hoot.Props.C11
import Hoot.Compose.ExchangeAll
import Hoot.Compose.ExchangeRefuse
import Hoot.Compose.ExchangeChain

/-! # C01 — the exchange outcome is independent of I/O segmentation and buffer sizes

Two layers. Per phase, each "for every schedule": C02–C05, C07–C11, and `C01_queries_pure` below. Composed: the
caller's loop `xRun` (Spec/Caller.lean) under an arbitrary schedule of (bytes presented, buffer size, give-up)
triples, over the schedules whose windows are safe for the response head (`Head.safeWin`, finding D10): every
schedule that completes the exchange produces the one outcome `SendSpec` / `recvSpec`, and once everything has
arrived no schedule can wedge the flow.

Not covered (the claim stays `partial`; decided by the correspondence and the cross-schedule oracle on the
implementation): malformed streams. Close-delimited response bodies are covered when nothing follows them on the
connection (`b0.isClose → tail = []`: the caller reads until the connection has ended). -/

def Op.isQuery : Op → Bool
  | .canProceed | .maxin _ | .isChunked | .keep100 | .boundary | .mode | .mustClose | .reason | .statusQ => true
  | _ => false

/-- **C01 (queries are pure).** Readiness, chunked?, maximum input, keep-awaiting?, boundary?, body mode,
    must-close, reason and status can be interleaved anywhere: they never change the flow. -/
theorem C01_queries_pure (hack : Bool) (f : Flow) (op : Op) (hq : op.isQuery = true) : (f.step hack op).1 = f := by
  unfold Flow.step
  cases hs : f.st <;> cases op <;> simp [Op.isQuery] at hq <;>
    simp [stepPrepare, stepSendRequest, stepAwait100, stepSendBody, stepRecvResponse, stepRecvBody, stepRedirect, stepCleanup, notOffered] <;>
    (repeat' split) <;> simp_all

/-- **C01 (response head: nothing is consumed before it is complete)** — the flow-level form of
    `C05_call_prefix_partial`: a strict prefix of the head leaves the whole flow unchanged and consumes 0
    bytes, so the caller re-presents the same bytes plus what arrived since. -/
theorem C01_head_prefix (f : Flow) (hh : f.holder = .recvResponse) (h : Head) (hw : h.wf) (hs : h.fields.length ≤ 128)
    (hc : 100 ≤ h.codeVal) (hn : h.namesShort)
    (hnot : ¬ (300 ≤ h.codeVal ∧ h.codeVal ≤ 399) ∨
            (fieldsOf (h.fields.map Field.pair)).any (fun x => x.name == "location") = false)
    (n : Nat) (hlt : n < h.enc.length) :
    stepRecvResponse true f (.resp (h.enc.take n)) = (f, .resp 0 none) :=
  step_resp_prefix ⟨hw, hs, hc, hn⟩ hh hlt (h.safeWin_of_no_redirect_location true n hnot)

/-! ## The receive side of an exchange: `recvRun` (Spec/CallerRecv.lean) on the class `RecvSetup` (Spec/Exchange.lean) -/

/-- **C01 (receive side, every schedule).** Whatever the schedule: no call fails; never more is consumed
    than the response message; the body delivered so far is a prefix of the payload; the head handed out
    is the parsed `H` or not yet there. -/
theorem C01_recv_any (hack : Bool) (H : Head) (b0 : BPos) (tail : Bytes) (f0 : Flow) (S : RecvSetup hack H b0 f0)
    (htail : b0.isClose = true → tail = []) (σ : List IoStep) (hσ : ∀ s ∈ σ, H.safeWin hack s.m) :
    (recvRun hack (H.enc ++ b0.enc ++ tail) f0 σ).2.faults = 0 ∧
    (recvRun hack (H.enc ++ b0.enc ++ tail) f0 σ).2.consumed ≤ H.enc.length + b0.enc.length ∧
    (recvRun hack (H.enc ++ b0.enc ++ tail) f0 σ).2.body <+: b0.payload ∧
    ((recvRun hack (H.enc ++ b0.enc ++ tail) f0 σ).2.head = none ∨
     (recvRun hack (H.enc ++ b0.enc ++ tail) f0 σ).2.head = some H.parsed) :=
  recv_safe_of_inv (recv_run_inv S htail hσ)

/-- **C01 (receive side, outcome).** Every schedule that completes the receive side produces the one
    outcome `recvSpec`: exactly the response message consumed (the next message untouched), the parsed
    head, the whole payload, no fault — and the successor state the status dictates. -/
theorem C01_recv_outcome (hack : Bool) (H : Head) (b0 : BPos) (tail : Bytes) (f0 : Flow) (S : RecvSetup hack H b0 f0)
    (htail : b0.isClose = true → tail = []) (σ : List IoStep) (hσ : ∀ s ∈ σ, H.safeWin hack s.m) (hd : recvDone (recvRun hack (H.enc ++ b0.enc ++ tail) f0 σ).1 = true) :
    (recvRun hack (H.enc ++ b0.enc ++ tail) f0 σ).2 = recvSpec H b0 ∧
    (recvRun hack (H.enc ++ b0.enc ++ tail) f0 σ).1.st = terminalSt H ∧
    (H.enc ++ b0.enc ++ tail).drop (recvRun hack (H.enc ++ b0.enc ++ tail) f0 σ).2.consumed = tail := by
  obtain ⟨h1, h2⟩ := recvSpec_of_done S.hst (recv_run_inv S htail hσ) hd
  exact ⟨h1, h2, h1 ▸ drop_recvSpec H b0 tail⟩

/-- **C01 (receive side, independence).** Any two complete schedules — however the bytes were split,
    whatever the buffer sizes — observe the same thing and end in the same state. -/
theorem C01_recv_independent (hack : Bool) (H : Head) (b0 : BPos) (tail : Bytes) (f0 : Flow) (S : RecvSetup hack H b0 f0)
    (htail : b0.isClose = true → tail = []) (σ₁ σ₂ : List IoStep)
    (hσ₁ : ∀ s ∈ σ₁, H.safeWin hack s.m) (hσ₂ : ∀ s ∈ σ₂, H.safeWin hack s.m)
    (h1 : recvDone (recvRun hack (H.enc ++ b0.enc ++ tail) f0 σ₁).1 = true)
    (h2 : recvDone (recvRun hack (H.enc ++ b0.enc ++ tail) f0 σ₂).1 = true) :
    (recvRun hack (H.enc ++ b0.enc ++ tail) f0 σ₁).2 = (recvRun hack (H.enc ++ b0.enc ++ tail) f0 σ₂).2 ∧
    (recvRun hack (H.enc ++ b0.enc ++ tail) f0 σ₁).1.st = (recvRun hack (H.enc ++ b0.enc ++ tail) f0 σ₂).1.st := by
  obtain ⟨a1, a2, _⟩ := C01_recv_outcome hack H b0 tail f0 S htail σ₁ hσ₁ h1
  obtain ⟨b1, b2, _⟩ := C01_recv_outcome hack H b0 tail f0 S htail σ₂ hσ₂ h2
  exact ⟨by rw [a1, b1], by rw [a2, b2]⟩

/-- **C01 (receive side, completion).** After any schedule whatsoever, once the whole message has
    arrived, `|message| + 2` further calls with at least one byte of output space complete the receive
    side: no schedule can wedge the flow. -/
theorem C01_recv_live (hack : Bool) (H : Head) (b0 : BPos) (tail : Bytes) (f0 : Flow) (S : RecvSetup hack H b0 f0)
    (htail : b0.isClose = true → tail = []) (σ full : List IoStep) (hσ : ∀ s ∈ σ, H.safeWin hack s.m) (hfull : ∀ s ∈ full, H.enc.length + b0.enc.length ≤ s.m ∧ 1 ≤ s.cap)
    (hlen : H.enc.length + b0.enc.length + 2 ≤ full.length) :
    recvDone (recvRun hack (H.enc ++ b0.enc ++ tail) f0 (σ ++ full)).1 = true := by
  unfold recvRun
  rw [List.foldl_append]
  refine foldl_reaches (Inv := fun x => RecvInv H b0 tail f0 x.1 x.2) (done := fun x => recvDone x.1 = true)
    (good := fun s => H.enc.length + b0.enc.length ≤ s.m ∧ 1 ≤ s.cap) (recvMeasure (H.enc.length + b0.enc.length))
    (fun x s hx hs => recv_step_inv hack H b0 tail f0 S x.1 x.2 s hx (H.safeWin_full hack s.m (by have := hs.1; omega)))
    (fun x s hd => by rw [recvStep_done hack _ x s hd]; exact hd)
    (fun x s hx hs => recv_step_progress hack H b0 tail f0 S x.1 x.2 s hx hs.1 hs.2)
    full _ (recv_run_inv S htail hσ) hfull ?_
  have := recvMeasure_le (H.enc.length + b0.enc.length) (σ.foldl (recvStep hack (H.enc ++ b0.enc ++ tail)) (f0, {}))
  omega

/-! ## A whole exchange: `xRun` (Spec/Caller.lean) on the class `XSetup` (Spec/Exchange.lean). Whether the caller sees
    the interim 100 in time (in `Await100`) or late (in `RecvResponse`) is part of the schedule. -/

/-- **C01 (whole exchange, every schedule).** Whatever the schedule: what is on the wire is a prefix of
    the rendered head, or the whole head followed by body bytes; no more of the payload is accepted than
    there is; and the receive side is within its bounds (nothing consumed beyond the interim response and
    the message, body a prefix of the payload, no fault). -/
theorem C01_exchange_any (hack : Bool) (f0 : Flow) (r : AReq) (wr0 : BodyWriter) (P : Bytes) (I H : Head) (b0 : BPos)
    (tail pre : Bytes) (X : XSetup hack f0 r wr0 P I H b0 pre) (htail : b0.isClose = true → tail = []) (σ : List IoStep) (hσ : ∀ s ∈ σ, H.safeWin hack s.m) :
    ((xRun hack P (pre ++ (H.enc ++ b0.enc ++ tail)) f0 σ).2.1.wire <+: renderHead r ∨
      ∃ bw, (xRun hack P (pre ++ (H.enc ++ b0.enc ++ tail)) f0 σ).2.1.wire = renderHead r ++ bw) ∧
    (xRun hack P (pre ++ (H.enc ++ b0.enc ++ tail)) f0 σ).2.1.off ≤ P.length ∧
    (xRun hack P (pre ++ (H.enc ++ b0.enc ++ tail)) f0 σ).2.2.faults = 0 ∧
    (xRun hack P (pre ++ (H.enc ++ b0.enc ++ tail)) f0 σ).2.2.consumed ≤ pre.length + (H.enc.length + b0.enc.length) ∧
    (xRun hack P (pre ++ (H.enc ++ b0.enc ++ tail)) f0 σ).2.2.body <+: b0.payload := by
  have h := X.run_inv htail hσ
  generalize xRun hack P (pre ++ (H.enc ++ b0.enc ++ tail)) f0 σ = x at h ⊢
  cases h.stage with
  | @head f so hAB =>
    have hw : so.wire <+: renderHead r ∧ so.off = 0 := by
      rcases hAB with ⟨_, rfl⟩ | hB
      · exact ⟨List.nil_prefix, rfl⟩
      · exact sendB_wire X.send.hne hB
    dsimp only
    exact ⟨Or.inl hw.1, by omega, rfl, Nat.zero_le _, List.nil_prefix⟩
  | @await f so o _ _ hA hp =>
    obtain ⟨g1, g2, g3, _⟩ := pend_safe hp
    have hoff := hA.off
    dsimp only
    exact ⟨Or.inr ⟨[], by rw [hA.wire]; simp⟩, by omega, g1, by omega, by rw [g3]; exact List.nil_prefix⟩
  | @body f so o hC hp =>
    obtain ⟨g1, g2, g3, _⟩ := pend_safe hp
    obtain ⟨w1, w2⟩ := sendC_wire hC
    dsimp only
    exact ⟨Or.inr w1, w2, g1, by omega, by rw [g3]; exact List.nil_prefix⟩
  | @late f so _ _ _ _ _ _ hspec hoff =>
    exact ⟨Or.inr (sendSpec_head hspec), Nat.le_of_eq hoff, rfl, Nat.zero_le _, List.nil_prefix⟩
  | @recv f so o' f1 hw hoff _ hri =>
    obtain ⟨h1, h2, h3, _⟩ := recv_safe_of_inv hri
    refine ⟨Or.inr (sendSpec_head hw), Nat.le_of_eq hoff, h1, ?_, h3⟩
    show o'.consumed + pre.length ≤ _
    omega

/-- **C01 (whole exchange, outcome).** Every schedule that completes the exchange has put on the wire
    exactly the rendered head followed by nothing / the payload verbatim / a valid chunked coding (complete
    non-empty chunks, one terminator) of exactly the payload (`SendSpec`); has accepted the whole payload;
    has consumed exactly the interim response (if any) and the response message, so that the next message
    is what remains; has handed out the parsed final head — never the interim one — and the whole
    response payload; and has ended in the state the status dictates. -/
theorem C01_exchange_outcome (hack : Bool) (f0 : Flow) (r : AReq) (wr0 : BodyWriter) (P : Bytes) (I H : Head) (b0 : BPos)
    (tail pre : Bytes) (X : XSetup hack f0 r wr0 P I H b0 pre) (htail : b0.isClose = true → tail = []) (σ : List IoStep)
    (hσ : ∀ s ∈ σ, H.safeWin hack s.m) (hd : recvDone (xRun hack P (pre ++ (H.enc ++ b0.enc ++ tail)) f0 σ).1 = true) :
    SendSpec r wr0 P (xRun hack P (pre ++ (H.enc ++ b0.enc ++ tail)) f0 σ).2.1.wire ∧
    (xRun hack P (pre ++ (H.enc ++ b0.enc ++ tail)) f0 σ).2.1.off = P.length ∧
    (xRun hack P (pre ++ (H.enc ++ b0.enc ++ tail)) f0 σ).2.2 = (recvSpec H b0).shift pre.length ∧
    (xRun hack P (pre ++ (H.enc ++ b0.enc ++ tail)) f0 σ).1.st = terminalSt H ∧
    (pre ++ (H.enc ++ b0.enc ++ tail)).drop (xRun hack P (pre ++ (H.enc ++ b0.enc ++ tail)) f0 σ).2.2.consumed = tail :=
  (X.run_inv htail hσ).outcome X.send.hst hd

/-- **C01 (whole exchange, independence).** Any two complete schedules — whatever the buffer sizes,
    however the bytes arrived, whether the `100 Continue` was seen in time or late — agree on everything
    observed of the response and on the terminal state; both have sent the rendered head and delivered
    exactly the payload (`SendSpec`), and — bodiless or `Content-Length` — byte-identical request bytes.
    (For a chunked request body the chunk boundaries follow the buffers; the payload coded is the same.) -/
theorem C01_exchange_independent (hack : Bool) (f0 : Flow) (r : AReq) (wr0 : BodyWriter) (P : Bytes) (I H : Head) (b0 : BPos)
    (tail pre : Bytes) (X : XSetup hack f0 r wr0 P I H b0 pre) (htail : b0.isClose = true → tail = []) (σ₁ σ₂ : List IoStep)
    (hσ₁ : ∀ s ∈ σ₁, H.safeWin hack s.m) (hσ₂ : ∀ s ∈ σ₂, H.safeWin hack s.m)
    (h1 : recvDone (xRun hack P (pre ++ (H.enc ++ b0.enc ++ tail)) f0 σ₁).1 = true)
    (h2 : recvDone (xRun hack P (pre ++ (H.enc ++ b0.enc ++ tail)) f0 σ₂).1 = true) :
    (xRun hack P (pre ++ (H.enc ++ b0.enc ++ tail)) f0 σ₁).2.2 = (xRun hack P (pre ++ (H.enc ++ b0.enc ++ tail)) f0 σ₂).2.2 ∧
    (xRun hack P (pre ++ (H.enc ++ b0.enc ++ tail)) f0 σ₁).1.st = (xRun hack P (pre ++ (H.enc ++ b0.enc ++ tail)) f0 σ₂).1.st ∧
    (wr0.mode ≠ .chunked →
      (xRun hack P (pre ++ (H.enc ++ b0.enc ++ tail)) f0 σ₁).2.1 = (xRun hack P (pre ++ (H.enc ++ b0.enc ++ tail)) f0 σ₂).2.1) := by
  obtain ⟨a1, a2, a3, a4, _⟩ := (X.run_inv htail hσ₁).outcome X.send.hst h1
  obtain ⟨b1, b2, b3, b4, _⟩ := (X.run_inv htail hσ₂).outcome X.send.hst h2
  refine ⟨by rw [a3, b3], by rw [a4, b4], fun hm => ?_⟩
  have ext : ∀ a b : SendObs, a.wire = b.wire → a.off = b.off → a = b := by
    rintro ⟨_, _⟩ ⟨_, _⟩ rfl rfl
    rfl
  exact ext _ _ (SendSpec_unique r wr0 P _ _ hm a1 b1) (a2.trans b2.symm)

/-- **C01 (whole exchange, completion).** After any schedule whatsoever — buffers too small for a line,
    bytes withheld, a caller that gave up waiting or did not — once everything the server sends for this
    exchange has arrived and the caller's buffer holds the longest head line and the smallest chunk (6
    bytes), a bounded number of further calls (head lines + payload bytes + server bytes + 9) completes the
    exchange: no schedule can wedge the flow, on either side. -/
theorem C01_exchange_live (hack : Bool) (f0 : Flow) (r : AReq) (wr0 : BodyWriter) (P : Bytes) (I H : Head) (b0 : BPos)
    (tail pre : Bytes) (X : XSetup hack f0 r wr0 P I H b0 pre) (htail : b0.isClose = true → tail = []) (σ full : List IoStep) (hσ : ∀ s ∈ σ, H.safeWin hack s.m)
    (hfull : ∀ s ∈ full, s.full r (pre.length + (H.enc.length + b0.enc.length)))
    (hlen : (headUnits r).length + P.length + (pre.length + (H.enc.length + b0.enc.length)) + 9 ≤ full.length) :
    recvDone (xRun hack P (pre ++ (H.enc ++ b0.enc ++ tail)) f0 (σ ++ full)).1 = true := by
  unfold xRun
  rw [List.foldl_append]
  refine foldl_reaches (Inv := XInv hack f0 r wr0 P H b0 tail pre) (done := fun x => recvDone x.1 = true)
    (xMeasure r P (pre.length + (H.enc.length + b0.enc.length)))
    (fun x s hx hs => x_step_inv hack f0 r wr0 P I H b0 tail pre X htail x s hx (H.safeWin_full hack s.m (by have := hs.1; omega)))
    (fun x s hd => by rw [xStep_done hack P _ x s hd]; exact hd)
    (x_step_progress hack f0 r wr0 P I H b0 tail pre X htail)
    full _ (X.run_inv htail hσ) hfull ?_
  have := xMeasure_le r P (pre.length + (H.enc.length + b0.enc.length))
    (σ.foldl (xStep hack P (pre ++ (H.enc ++ b0.enc ++ tail))) (f0, {}, {}))
  omega

/-! ## Across a redirect -/

theorem newMethodOf_nobody (m nm : Method) (s : Nat) (h : newMethodOf m s = some nm) : nm.needBody = false := by
  unfold newMethodOf at h
  by_cases hs : (s == 307 || s == 308) = true
  · simp only [hs, if_true] at h
    cases hn : m.needBody with
    | true => simp [hn] at h
    | false =>
      simp only [hn, Bool.false_eq_true, if_false] at h
      split at h
      · cases h
      · injection h with h; rw [← h]; exact hn
  · simp only [hs, Bool.false_eq_true, if_false] at h
    split at h
    · injection h with h
      rename_i hg
      rw [← h]
      cases m <;> simp [Method.needBody] at hg ⊢
    · injection h with h; rw [← h]; rfl

/-- **C01 (next hop).** Whatever redirect was followed — any status of the method table, any resolved
    target, either credentials policy — the new flow is a valid bodiless start (`SendSetup`), provided its
    request passes `analyze_request` (C17 says exactly when): so every theorem of the composed exchange
    applies to each hop of a redirect chain in turn. -/
theorem C01_follow_setup (prev : AReq) (m nm : Method) (s : Nat) (uri : Uri) (sameHost : Bool)
    (hm : newMethodOf m s = some nm)
    (han : (followFlow prev nm uri sameHost).call.analyzeRequest.2 = .ok ()) :
    SendSetup (followFlow prev nm uri sameHost) (followFlow prev nm uri sameHost).call.analyzeRequest.1.req BodyWriter.newNone [] := by
  have hnb := newMethodOf_nobody m nm s hm
  obtain ⟨hh, hsb, hw⟩ := followFlow_bodiless hnb prev uri sameHost
  exact sendSetup_of_prepare _ _ _ rfl rfl rfl han (analyzeRequest_writer_none rfl han rfl hnb hw)
    (Or.inl ⟨hh, hsb, rfl, rfl⟩)

/-- **C01 (hand-over between exchanges).** When the first exchange of a connection completes — under any
    schedule — what remains of the server stream is exactly the stream of the next exchange; so the next
    exchange, run from there under any schedule of its own, has the outcome its own `XSetup` dictates. -/
theorem C01_pipeline (hack : Bool)
    (f₁ : Flow) (r₁ : AReq) (w₁ : BodyWriter) (P₁ : Bytes) (I₁ H₁ : Head) (b₁ : BPos) (pre₁ : Bytes)
    (f₂ : Flow) (r₂ : AReq) (w₂ : BodyWriter) (P₂ : Bytes) (I₂ H₂ : Head) (b₂ : BPos) (pre₂ tail : Bytes)
    (X₁ : XSetup hack f₁ r₁ w₁ P₁ I₁ H₁ b₁ pre₁) (X₂ : XSetup hack f₂ r₂ w₂ P₂ I₂ H₂ b₂ pre₂)
    (hc₁ : b₁.isClose = false) (htail : b₂.isClose = true → tail = [])
    (σ₁ σ₂ : List IoStep) (hσ₁ : ∀ s ∈ σ₁, H₁.safeWin hack s.m) (hσ₂ : ∀ s ∈ σ₂, H₂.safeWin hack s.m)
    (hd₁ : recvDone (xRun hack P₁ (pre₁ ++ (H₁.enc ++ b₁.enc ++ (pre₂ ++ (H₂.enc ++ b₂.enc ++ tail)))) f₁ σ₁).1 = true)
    (hd₂ : recvDone (xRun hack P₂
        ((pre₁ ++ (H₁.enc ++ b₁.enc ++ (pre₂ ++ (H₂.enc ++ b₂.enc ++ tail)))).drop
          (xRun hack P₁ (pre₁ ++ (H₁.enc ++ b₁.enc ++ (pre₂ ++ (H₂.enc ++ b₂.enc ++ tail)))) f₁ σ₁).2.2.consumed) f₂ σ₂).1 = true) :
    (xRun hack P₂
        ((pre₁ ++ (H₁.enc ++ b₁.enc ++ (pre₂ ++ (H₂.enc ++ b₂.enc ++ tail)))).drop
          (xRun hack P₁ (pre₁ ++ (H₁.enc ++ b₁.enc ++ (pre₂ ++ (H₂.enc ++ b₂.enc ++ tail)))) f₁ σ₁).2.2.consumed) f₂ σ₂).2.2
      = (recvSpec H₂ b₂).shift pre₂.length := by
  obtain ⟨_, _, _, _, hrest⟩ := (X₁.run_inv (by rw [hc₁]; intro h; cases h) hσ₁).outcome X₁.send.hst hd₁
  rw [hrest] at hd₂ ⊢
  exact ((X₂.run_inv htail hσ₂).outcome X₂.send.hst hd₂).2.2.1

/-! ## What the flow hands to `as_new_flow` is schedule-independent (Compose/ExchangeChain.lean) -/

/-- **C01 (what a redirect hands to the next hop).** However the exchange was scheduled, once it is complete
    the flow holds the analysed request `r`, the status of `H` and the last `Location` field of `H` — the three
    things `as_new_flow` reads. -/
theorem C01_redirect_state (hack : Bool) (f0 : Flow) (r : AReq) (wr0 : BodyWriter) (P : Bytes) (I H : Head) (b0 : BPos)
    (tail pre : Bytes) (X : XSetup hack f0 r wr0 P I H b0 pre) (htail : b0.isClose = true → tail = []) (σ : List IoStep)
    (hσ : ∀ s ∈ σ, H.safeWin hack s.m) (hd : recvDone (xRun hack P (pre ++ (H.enc ++ b0.enc ++ tail)) f0 σ).1 = true) :
    (xRun hack P (pre ++ (H.enc ++ b0.enc ++ tail)) f0 σ).1.call.req = r ∧
    (xRun hack P (pre ++ (H.enc ++ b0.enc ++ tail)) f0 σ).1.location = lastLocation H.parsed.fields ∧
    (xRun hack P (pre ++ (H.enc ++ b0.enc ++ tail)) f0 σ).1.status = some H.codeVal := by
  obtain ⟨h1, h2, h3, _⟩ := X.done_frame htail hσ hd
  exact ⟨h1, h2, h3⟩

/-- **C01 (the next hop is schedule-independent).** The answer of `as_new_flow` after a complete exchange —
    the new flow with its method, target and inherited headers (C13–C15), or the refusal, or the error — is a
    function of the request and the response head alone. -/
theorem C01_redirect_next (hack : Bool) (f0 : Flow) (r : AReq) (wr0 : BodyWriter) (P : Bytes) (I H : Head) (b0 : BPos)
    (tail pre : Bytes) (X : XSetup hack f0 r wr0 P I H b0 pre) (htail : b0.isClose = true → tail = []) (σ : List IoStep)
    (hσ : ∀ s ∈ σ, H.safeWin hack s.m) (hd : recvDone (xRun hack P (pre ++ (H.enc ++ b0.enc ++ tail)) f0 σ).1 = true)
    (sameHost : Bool) :
    ((xRun hack P (pre ++ (H.enc ++ b0.enc ++ tail)) f0 σ).1.asNewFlow sameHost).2 =
      followRes r (lastLocation H.parsed.fields) (some H.codeVal) sameHost :=
  X.next htail hσ hd sameHost

/-- **C01 (two hops).** An exchange answered by a redirect, `as_new_flow`, and the exchange of the flow it
    returns (on whatever stream the next connection delivers): under any two complete schedules the second
    request on the wire, the second response as observed and the final state are those the second exchange's
    own setup dictates — the first schedule has no influence beyond having completed. -/
theorem C01_chain2 (hack : Bool)
    (f₁ : Flow) (r₁ : AReq) (w₁ : BodyWriter) (P₁ : Bytes) (I₁ H₁ : Head) (b₁ : BPos) (pre₁ tail₁ : Bytes)
    (X₁ : XSetup hack f₁ r₁ w₁ P₁ I₁ H₁ b₁ pre₁) (ht₁ : b₁.isClose = true → tail₁ = [])
    (sameHost : Bool) (f₂ : Flow) (hnext : followRes r₁ (lastLocation H₁.parsed.fields) (some H₁.codeVal) sameHost = .flow f₂)
    (r₂ : AReq) (w₂ : BodyWriter) (P₂ : Bytes) (I₂ H₂ : Head) (b₂ : BPos) (pre₂ tail₂ : Bytes)
    (X₂ : XSetup hack f₂ r₂ w₂ P₂ I₂ H₂ b₂ pre₂) (ht₂ : b₂.isClose = true → tail₂ = [])
    (σ₁ σ₂ : List IoStep) (hσ₁ : ∀ s ∈ σ₁, H₁.safeWin hack s.m) (hσ₂ : ∀ s ∈ σ₂, H₂.safeWin hack s.m)
    (hd₁ : recvDone (xRun hack P₁ (pre₁ ++ (H₁.enc ++ b₁.enc ++ tail₁)) f₁ σ₁).1 = true) :
    ((xRun hack P₁ (pre₁ ++ (H₁.enc ++ b₁.enc ++ tail₁)) f₁ σ₁).1.asNewFlow sameHost).2 = .flow f₂ ∧
    (recvDone (xRun hack P₂ (pre₂ ++ (H₂.enc ++ b₂.enc ++ tail₂)) f₂ σ₂).1 = true →
      SendSpec r₂ w₂ P₂ (xRun hack P₂ (pre₂ ++ (H₂.enc ++ b₂.enc ++ tail₂)) f₂ σ₂).2.1.wire ∧
      (xRun hack P₂ (pre₂ ++ (H₂.enc ++ b₂.enc ++ tail₂)) f₂ σ₂).2.2 = (recvSpec H₂ b₂).shift pre₂.length ∧
      (xRun hack P₂ (pre₂ ++ (H₂.enc ++ b₂.enc ++ tail₂)) f₂ σ₂).1.st = terminalSt H₂) := by
  refine ⟨?_, ?_⟩
  · rw [X₁.next ht₁ hσ₁ hd₁ sameHost, hnext]
  · intro hd₂
    obtain ⟨a, _, c, d, _⟩ := (X₂.run_inv ht₂ hσ₂).outcome X₂.send.hst hd₂
    exact ⟨a, c, d⟩

/-! ## Non-vacuity: concrete exchanges of each class, with their setups proved and their schedules run -/

/-! non-vacuity: a concrete exchange (`HTTP/1.1 200 OK`, `Content-Length: 5`, body `hello`, then the
    start of a next message) meets `RecvSetup`; two very different schedules complete it (evaluated) -/
def xField : Field := { name := [67,111,110,116,101,110,116,45,76,101,110,103,116,104], pre := [32], value := [53], post := [] }
def xHead : Head := { ver := 1, d1 := 50, d2 := 48, d3 := 48, reason := some [79, 75], fields := [xField] }
/-- the flow the API reaches for `GET http://a/` after the request head was written -/
def xFlow : Flow := ((((Flow.new .get .h11 d10Call.req.uri []).step true .proceed).1.step true (.write 1000)).1.step true .proceed).1
def xBody : BPos := .len [104, 101, 108, 108, 111]
def xTail : Bytes := [72, 84, 84, 80]
/-- `x = .ok rd` as a Boolean the kernel can evaluate (`Except` has no decidable equality) -/
def isOkReader (rd : BodyReader) : Except Fault BodyReader → Bool | .ok rd' => rd' == rd | _ => false
theorem isOkReader_eq (rd : BodyReader) (x : Except Fault BodyReader) (h : isOkReader rd x = true) : x = .ok rd := by
  unfold isOkReader at h; split at h <;> simp_all

theorem xRespOk : RespOk true xHead xBody .get where
  hw := Head.wf_of_wfb _ (by decide +kernel)
  hs := by decide +kernel
  hc := by decide +kernel
  h100 := by decide +kernel
  hn := by intro f hf; simp [xHead] at hf; subst hf; simp [xField]
  hb := trivial
  hframe := isOkReader_eq _ _ (by decide +kernel)

example : RecvSetup true xHead xBody xFlow where
  resp := (by decide +kernel : xFlow.call.req.method = .get) ▸ xRespOk
  hst := by decide +kernel
  hh := by decide +kernel
  hnd := by decide +kernel

/-- bytes arrive one at a time (nothing is consumed before the head is complete, so the window grows), one byte of output space -/
def xOneByte : List IoStep := (List.range 60).map fun i => { m := i + 1, cap := 1 }
def xAllAtOnce : List IoStep := [{ m := 1000, cap := 1000 }, { m := 1000, cap := 1000 }]
#guard recvDone (recvRun true (xHead.enc ++ xBody.enc ++ xTail) xFlow xOneByte).1
#guard recvDone (recvRun true (xHead.enc ++ xBody.enc ++ xTail) xFlow xAllAtOnce).1
#guard (recvRun true (xHead.enc ++ xBody.enc ++ xTail) xFlow xOneByte).2 == (recvRun true (xHead.enc ++ xBody.enc ++ xTail) xFlow xAllAtOnce).2
#guard (recvRun true (xHead.enc ++ xBody.enc ++ xTail) xFlow xAllAtOnce).2 == recvSpec xHead xBody

/-- non-vacuity: `GET http://a/` from a fresh flow, answered by the example response; a schedule of tiny
    buffers and one-byte arrivals and a schedule of huge ones both complete it with the same outcome -/
def xNew : Flow := Flow.new .get .h11 d10Call.req.uri []
def isOkUnit : Except Fault Unit → Bool | .ok () => true | _ => false
theorem isOkUnit_eq (x : Except Fault Unit) (h : isOkUnit x = true) : x = .ok () := by
  unfold isOkUnit at h; split at h <;> simp_all
theorem c11Interim : Interim c11Head := ⟨Head.wf_of_wfb _ (by decide +kernel), rfl, by decide +kernel⟩

example : XSetup true xNew xNew.call.analyzeRequest.1.req BodyWriter.newNone [] c11Head xHead xBody [] where
  send := sendSetup_of_new .get .h11 d10Call.req.uri [] rfl (isOkUnit_eq _ (by decide +kernel))
  hnd := by decide +kernel
  resp := xRespOk
  int := c11Interim
  hpre := Or.inr ⟨by decide +kernel, rfl⟩

def xStream : Bytes := xHead.enc ++ xBody.enc ++ xTail
def xTiny : List IoStep := (List.range 90).map fun i => { m := i, cap := 17 + i % 5 }
def xHuge : List IoStep := List.replicate 8 { m := 1000, cap := 1000 }
#guard recvDone (xRun true [] xStream xNew xTiny).1
#guard recvDone (xRun true [] xStream xNew xHuge).1
#guard (xRun true [] xStream xNew xTiny).2 == (xRun true [] xStream xNew xHuge).2
#guard (xRun true [] xStream xNew xHuge).2.1.wire == "GET / HTTP/1.1\r\nhost: a\r\n\r\n".toUTF8.toList

/-- non-vacuity with a body: `POST http://a/` with `Content-Length: 3`, the same request chunked, and with
    `Expect: 100-continue` (the server's `100 Continue` in front of the response) -/
def xPayload : Bytes := [120, 121, 122]
def xPostCL : Flow := Flow.new .post .h11 d10Call.req.uri [{ name := "content-length", value := [51] }]
def xPostCh : Flow := Flow.new .post .h11 d10Call.req.uri []
def xPostEx : Flow := Flow.new .post .h11 d10Call.req.uri [{ name := "expect", value := "100-continue".toUTF8.toList }]
theorem xRespOkPost : RespOk true xHead xBody .post := { xRespOk with hframe := isOkReader_eq _ _ (by decide +kernel) }
def isChunkedW (w : BodyWriter) : Bool := w == BodyWriter.newChunked
def isSized3 (w : BodyWriter) : Bool := w == BodyWriter.newSized 3

example : XSetup true xPostCL xPostCL.call.analyzeRequest.1.req (BodyWriter.newSized xPayload.length) xPayload c11Head xHead xBody [] where
  send := sendSetup_of_new_body .post .h11 d10Call.req.uri _ xPayload _ rfl
    (isOkUnit_eq _ (by decide +kernel)) (by decide +kernel) (Or.inr rfl)
  hnd := by decide +kernel
  resp := xRespOkPost
  int := c11Interim
  hpre := Or.inr ⟨by decide +kernel, rfl⟩

example : XSetup true xPostCh xPostCh.call.analyzeRequest.1.req BodyWriter.newChunked xPayload c11Head xHead xBody [] where
  send := sendSetup_of_new_body .post .h11 d10Call.req.uri _ xPayload _ rfl
    (isOkUnit_eq _ (by decide +kernel)) (by decide +kernel) (Or.inl rfl)
  hnd := by decide +kernel
  resp := xRespOkPost
  int := c11Interim
  hpre := Or.inr ⟨by decide +kernel, rfl⟩

example : XSetup true xPostEx xPostEx.call.analyzeRequest.1.req BodyWriter.newChunked xPayload c11Head xHead xBody c11Head.enc where
  send := sendSetup_of_new_body .post .h11 d10Call.req.uri _ xPayload _ rfl
    (isOkUnit_eq _ (by decide +kernel)) (by decide +kernel) (Or.inl rfl)
  hnd := by decide +kernel
  resp := xRespOkPost
  int := c11Interim
  hpre := Or.inl ⟨by decide +kernel, rfl⟩

#guard recvDone (xRun true xPayload xStream xPostCL xTiny).1
#guard (xRun true xPayload xStream xPostCL xTiny).2 == (xRun true xPayload xStream xPostCL xHuge).2
def xSmall : List IoStep := (List.range 90).map fun i => { m := i, cap := 32 + i % 5 }
#guard recvDone (xRun true xPayload xStream xPostCh xSmall).1
#guard recvDone (xRun true xPayload xStream xPostCh xHuge).1
#guard (xRun true xPayload xStream xPostCh xSmall).2.2 == (xRun true xPayload xStream xPostCh xHuge).2.2
#guard (xRun true xPayload xStream xPostCh xHuge).2.1.wire ==
  "POST / HTTP/1.1\r\nhost: a\r\ntransfer-encoding: chunked\r\n\r\n3\r\nxyz\r\n0\r\n\r\n".toUTF8.toList
-- Expect: the caller sees the 100 in time (xHuge), gives up at once (xEarly: the 100 is skipped later in
-- RecvResponse), or gets it byte by byte and gives up in the middle (xMid)
def xStreamEx : Bytes := c11Head.enc ++ xStream
def xEarly : List IoStep := List.replicate 3 { m := 0, cap := 1000, giveUp := true } ++ List.replicate 8 { m := 1000, cap := 1000 }
def xMid : List IoStep := (List.range 120).map fun i => { m := i / 2, cap := 40, giveUp := i == 20 }
#guard recvDone (xRun true xPayload xStreamEx xPostEx xHuge).1
#guard recvDone (xRun true xPayload xStreamEx xPostEx xEarly).1
#guard recvDone (xRun true xPayload xStreamEx xPostEx xMid).1
#guard (xRun true xPayload xStreamEx xPostEx xHuge).2.2 == (xRun true xPayload xStreamEx xPostEx xEarly).2.2
#guard (xRun true xPayload xStreamEx xPostEx xHuge).2.2 == (xRun true xPayload xStreamEx xPostEx xMid).2.2
#guard (xRun true xPayload xStreamEx xPostEx xHuge).2.2.consumed == c11Head.enc.length + xHead.enc.length + 5

/-- non-vacuity, close-delimited: `HTTP/1.1 200 OK` without framing fields, then `hello`, then the
    connection ends; the body is everything that follows the head, and the connection is marked must-close -/
def xHeadC : Head := { ver := 1, d1 := 50, d2 := 48, d3 := 48, reason := some [79, 75], fields := [] }
def xBodyC : BPos := .close [104, 101, 108, 108, 111]
theorem xRespOkC : RespOk true xHeadC xBodyC .get where
  hw := Head.wf_of_wfb _ (by decide +kernel)
  hs := by decide +kernel
  hc := by decide +kernel
  h100 := by decide +kernel
  hn := by intro f hf; simp [xHeadC] at hf
  hb := trivial
  hframe := isOkReader_eq _ _ (by decide +kernel)

example : XSetup true xNew xNew.call.analyzeRequest.1.req BodyWriter.newNone [] c11Head xHeadC xBodyC [] where
  send := sendSetup_of_new .get .h11 d10Call.req.uri [] rfl (isOkUnit_eq _ (by decide +kernel))
  hnd := by decide +kernel
  resp := xRespOkC
  int := c11Interim
  hpre := Or.inr ⟨by decide +kernel, rfl⟩

def xStreamC : Bytes := xHeadC.enc ++ xBodyC.enc
#guard recvDone (xRun true [] xStreamC xNew xTiny).1
#guard recvDone (xRun true [] xStreamC xNew xHuge).1
#guard (xRun true [] xStreamC xNew xTiny).2 == (xRun true [] xStreamC xNew xHuge).2
#guard (xRun true [] xStreamC xNew xHuge).2.2.body == [104, 101, 108, 108, 111]
#guard (xRun true [] xStreamC xNew xTiny).1.closeReasons.contains .closeDelimited

/-- non-vacuity of the refusal class: `POST` with `Expect`, answered `403` with `Content-Length: 0`, then
    the start of a next message; a caller that gives up at once sends the body, a caller that looks first
    does not — both complete with the same response observations -/
def xField0 : Field := { name := [67,111,110,116,101,110,116,45,76,101,110,103,116,104], pre := [32], value := [48], post := [] }
def xHead403 : Head := { ver := 1, d1 := 52, d2 := 48, d3 := 51, reason := some [78, 111], fields := [xField0] }
def xBody0 : BPos := .len []
theorem xRespOk403 : RespOk true xHead403 xBody0 .post where
  hw := Head.wf_of_wfb _ (by decide +kernel)
  hs := by decide +kernel
  hc := by decide +kernel
  h100 := by decide +kernel
  hn := by intro f hf; simp [xHead403] at hf; subst hf; simp [xField0]
  hb := trivial
  hframe := isOkReader_eq _ _ (by decide +kernel)

example : XSetupR true xPostEx xPostEx.call.analyzeRequest.1.req BodyWriter.newChunked xPayload xHead403 xBody0 where
  send := sendSetup_of_new_body .post .h11 d10Call.req.uri _ xPayload _ rfl
    (isOkUnit_eq _ (by decide +kernel)) (by decide +kernel) (Or.inl rfl)
  hnd := by decide +kernel
  resp := xRespOk403
  haw := by decide +kernel

def xStream403 : Bytes := xHead403.enc ++ xBody0.enc ++ xTail
#guard recvDone (xRun true xPayload xStream403 xPostEx xEarly).1
#guard recvDone (xRun true xPayload xStream403 xPostEx xHuge).1
#guard (xRun true xPayload xStream403 xPostEx xEarly).2.2 == (xRun true xPayload xStream403 xPostEx xHuge).2.2
#guard (xRun true xPayload xStream403 xPostEx xEarly).2.1.off == 3      -- gave up: the body went out
#guard (xRun true xPayload xStream403 xPostEx xHuge).2.1.off == 0       -- looked first: refused, no body
#guard (xRun true xPayload xStream403 xPostEx xHuge).1.closeReasons.contains .not100

/-- non-vacuity for a redirect response under the fallback: `302` with `Location`; windows that hold the
    whole head, or end before the end of the Location line, are safe — a schedule of such windows completes
    the exchange in the `Redirect` state -/
def xFieldLoc : Field := { name := [76,111,99,97,116,105,111,110], pre := [32], value := [47,110], post := [] }
def xHead302 : Head := { ver := 1, d1 := 51, d2 := 48, d3 := 50, reason := some [70], fields := [xField0, xFieldLoc] }
theorem xRespOk302 : RespOk true xHead302 xBody0 .get where
  hw := Head.wf_of_wfb _ (by decide +kernel)
  hs := by decide +kernel
  hc := by decide +kernel
  h100 := by decide +kernel
  hn := by intro f hf; simp [xHead302] at hf; rcases hf with rfl | rfl <;> simp [xField0, xFieldLoc]
  hb := trivial
  hframe := isOkReader_eq _ _ (by decide +kernel)

/-- windows of at most 30 bytes end before the end of the Location line (status line 17 + first field 19 +
    Location line 14 bytes), windows of 1000 bytes hold the whole head -/
def xSafe302 : List IoStep := [{ m := 0, cap := 64 }, { m := 20, cap := 64 }, { m := 30, cap := 64 }, { m := 1000, cap := 64 }, { m := 1000, cap := 64 }, { m := 1000, cap := 64 }]
theorem xSafe302_ok : ∀ s ∈ xSafe302, xHead302.safeWin true s.m := by
  have hsmall : ∀ m, m < 49 → xHead302.safeWin true m := by
    intro m hm
    refine xHead302.safeWin_before_location true [xField0] xFieldLoc [] rfl (by decide +kernel) ?_
    have : xHead302.statusLine.length + (encFields [xField0]).length + xFieldLoc.enc.length = 49 := by decide +kernel
    omega
  intro s hs
  simp [xSafe302] at hs
  rcases hs with rfl | rfl | rfl | rfl
  · exact hsmall 0 (by omega)
  · exact hsmall 20 (by omega)
  · exact hsmall 30 (by omega)
  · exact Head.safeWin_full _ _ _ (by decide +kernel)

#guard recvDone (xRun true [] (xHead302.enc ++ xBody0.enc ++ xTail) xNew xSafe302).1
#guard (xRun true [] (xHead302.enc ++ xBody0.enc ++ xTail) xNew xSafe302).1.st == .redirect
#guard (xRun true [] (xHead302.enc ++ xBody0.enc ++ xTail) xNew xSafe302).2.2 == recvSpec xHead302 xBody0

/-- non-vacuity of the two-hop statement: `GET http://a/` answered `302` with `Location: /n`; the flow
    `as_new_flow` returns is `GET http://a/n`, a covered start, and its exchange (answered by the example
    response) completes with the same outcome under a tiny-buffer and a huge-buffer schedule -/
def xReq1 : AReq := xNew.call.analyzeRequest.1.req
def xUri2 : Uri := { scheme := "http", host := "a", port := none, path := "/n", query := none }
def xF2 : Flow := followFlow xReq1 .get xUri2 false

example : XSetup true xNew xReq1 BodyWriter.newNone [] c11Head xHead302 xBody0 [] where
  send := sendSetup_of_new .get .h11 d10Call.req.uri [] rfl (isOkUnit_eq _ (by decide +kernel))
  hnd := by decide +kernel
  resp := xRespOk302
  int := c11Interim
  hpre := Or.inr ⟨by decide +kernel, rfl⟩

example : XSetup true xF2 xF2.call.analyzeRequest.1.req BodyWriter.newNone [] c11Head xHead xBody [] where
  send := C01_follow_setup xReq1 .get .get 302 xUri2 false (by decide) (isOkUnit_eq _ (by decide +kernel))
  hnd := by decide +kernel
  resp := xRespOk
  int := c11Interim
  hpre := Or.inr ⟨by decide +kernel, rfl⟩

-- the hypothesis `hnext` of `C01_chain2` for this instance (evaluated: URL resolution works on `String`s,
-- which the kernel does not reduce), and the whole chain run on the model
#guard (match followRes xReq1 (lastLocation xHead302.parsed.fields) (some xHead302.codeVal) false with
        | .flow f => f == xF2 | _ => false)
#guard (match ((xRun true [] (xHead302.enc ++ xBody0.enc ++ xTail) xNew xSafe302).1.asNewFlow false).2 with
        | .flow g => g == xF2 && recvDone (xRun true [] xStream g xTiny).1 &&
            (xRun true [] xStream g xTiny).2 == (xRun true [] xStream xF2 xHuge).2 &&
            (xRun true [] xStream g xHuge).2.1.wire == "GET /n HTTP/1.1\r\nhost: a\r\n\r\n".toUTF8.toList
        | _ => false)


/-- one hop of a redirect chain: the exchange (request side `r w P`, interim `I pre`, response `H b`, what
    follows it on that connection `tail`), the schedule it is run under, and the credentials policy used when
    following it -/
structure Hop where
  r : AReq
  w : BodyWriter
  P : Bytes
  I : Head
  H : Head
  b : BPos
  pre : Bytes
  tail : Bytes
  σ : List IoStep
  sameHost : Bool

def Hop.stream (h : Hop) : Bytes := h.pre ++ (h.H.enc ++ h.b.enc ++ h.tail)

/-- the caller's loop over a whole chain -/
def chainRun (hack : Bool) : Flow → List Hop → List (Flow × SendObs × RecvObs)
  | _, [] => []
  | f, h :: rest =>
    (xRun hack h.P h.stream f h.σ) ::
      match ((xRun hack h.P h.stream f h.σ).1.asNewFlow h.sameHost).2 with
      | .flow g => chainRun hack g rest
      | _ => []

def ChainOK (hack : Bool) : Flow → List Hop → Prop
  | _, [] => True
  | f, h :: rest =>
    XSetup hack f h.r h.w h.P h.I h.H h.b h.pre ∧ (h.b.isClose = true → h.tail = []) ∧
    (∀ s ∈ h.σ, h.H.safeWin hack s.m) ∧ recvDone (xRun hack h.P h.stream f h.σ).1 = true ∧
    (rest = [] ∨ ∃ g, followRes h.r (lastLocation h.H.parsed.fields) (some h.H.codeVal) h.sameHost = .flow g ∧ ChainOK hack g rest)

def ChainSpec : List Hop → List (Flow × SendObs × RecvObs) → Prop
  | [], [] => True
  | h :: rest, x :: xs =>
    SendSpec h.r h.w h.P x.2.1.wire ∧ x.2.2 = (recvSpec h.H h.b).shift h.pre.length ∧ x.1.st = terminalSt h.H ∧
    ChainSpec rest xs
  | _, _ => False

/-- **C01 (a redirect chain as one run).** Any number of hops: under any complete schedules, hop by hop, the
    request on the wire is the one its setup renders, the response is observed exactly, the state is
    terminal, and the flow `as_new_flow` returns is the next hop's start — so the whole chain's observations
    do not depend on any of the schedules. -/
theorem C01_chain (hack : Bool) (hops : List Hop) : ∀ (f : Flow), ChainOK hack f hops →
    ChainSpec hops (chainRun hack f hops) := by
  induction hops with
  | nil => intro f _; trivial
  | cons h rest ih =>
    intro f hok
    obtain ⟨X, ht, hσ, hd, hnext⟩ := hok
    obtain ⟨a, _, c, d, _⟩ := (X.run_inv ht hσ).outcome X.send.hst hd
    unfold chainRun
    refine ⟨a, c, d, ?_⟩
    rcases hnext with rfl | ⟨g, hg, hrest⟩
    · -- last hop: whatever as_new_flow says, nothing follows
      split
      · unfold chainRun; trivial
      · trivial
    · have hn := X.next ht hσ hd h.sameHost
      unfold Hop.stream
      rw [hn, hg]
      exact ih g hrest

/-- the two-hop instance above as a chain, run as one: both hops observed as specified, under the safe
    windows of the redirect head and a tiny-buffer schedule for the second hop (evaluated) -/
def xHop1 : Hop := { r := xReq1, w := BodyWriter.newNone, P := [], I := c11Head, H := xHead302, b := xBody0, pre := [],
                     tail := xTail, σ := xSafe302, sameHost := false }
def xHop2 (σ : List IoStep) : Hop :=
  { r := xF2.call.analyzeRequest.1.req, w := BodyWriter.newNone, P := [], I := c11Head, H := xHead, b := xBody, pre := [],
    tail := xTail, σ := σ, sameHost := false }
#guard (chainRun true xNew [xHop1, xHop2 xTiny]).map (·.2.2) == [recvSpec xHead302 xBody0, recvSpec xHead xBody]
#guard (chainRun true xNew [xHop1, xHop2 xHuge]).map (·.2.2) == [recvSpec xHead302 xBody0, recvSpec xHead xBody]
#guard (chainRun true xNew [xHop1, xHop2 xTiny]).map (·.1.st) == [.redirect, .cleanup]
