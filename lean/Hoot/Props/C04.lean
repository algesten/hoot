import Hoot.Model.Flow

/-! # C04 — Content-Length request body is forwarded verbatim and never exceeds the length

About `CallSt.writeBodyPhase` / `CallSt.consumeDirect` (call.rs guards + body.rs sized writer) for
every sequence of writes and direct-write reports, every `N`, every input and buffer length. -/

inductive BOp
  | write (input : Bytes) (cap : Nat)
  | direct (n : Nat)

/-- the `Nat` is the number of bytes the op accounted for (0 when refused) -/
def stepSized (c : CallSt) : BOp → CallSt × Nat
  | .write input cap =>
    match c.writeBodyPhase input cap with
    | (c1, .ok (n, _)) => (c1, n)
    | (c1, .error _) => (c1, 0)
  | .direct n =>
    match c.consumeDirect n with
    | (c1, .ok ()) => (c1, n)
    | (c1, .error _) => (c1, 0)

def runSized (c : CallSt) : List BOp → CallSt × Nat
  | [] => (c, 0)
  | op :: ops => ((runSized (stepSized c op).1 ops).1, (stepSized c op).2 + (runSized (stepSized c op).1 ops).2)

/-- **C04 (copy).** An accepted write copies `min(input, output space, remaining)` bytes unchanged and
    reports that count as consumed; the remaining count goes down by exactly that much and the body
    is finished once it reaches zero. -/
theorem C04_copy (c : CallSt) (left : Nat) (input : Bytes) (cap : Nat)
    (hm : c.writer.mode = .sized left) (hfit : input.length ≤ left)
    (hnf : ¬ (input ≠ [] ∧ c.writer.ended = true)) :
    c.writeBodyPhase input cap =
      ({ c with writer := { mode := .sized (left - min (min cap input.length) left),
                            ended := c.writer.ended || left - min (min cap input.length) left == 0 } },
       .ok (min (min cap input.length) left, input.take (min (min cap input.length) left))) := by
  unfold CallSt.writeBodyPhase
  have h1 : (!input.isEmpty && c.writer.ended) = false := by
    cases input <;> simp_all
  have h2 : decide (input.length > left) = false := decide_eq_false (by omega)
  -- the bytes copied fit the buffer, so `try_write` takes them
  have h3 : (input.take (min (min cap input.length) left)).length ≤ cap := by
    rw [List.length_take]
    omega
  simp only [h1, BodyWriter.overLimit, BodyWriter.leftToSend, hm, h2, Bool.false_eq_true, if_false, BodyWriter.write,
    W.available, List.length_nil, Nat.sub_zero, W.tryWrite, h3, if_true, List.nil_append]

/-- **C04 (refusal: too much).** Offering more than the remaining bytes is refused; nothing is emitted
    or consumed and the state is unchanged. -/
theorem C04_refuse_over (c : CallSt) (left : Nat) (input : Bytes) (cap : Nat)
    (hm : c.writer.mode = .sized left) (hover : input.length > left) (hne : c.writer.ended = false) :
    c.writeBodyPhase input cap = (c, .error (.api .bodyLargerThanContentLength)) := by
  unfold CallSt.writeBodyPhase
  simp [hne, BodyWriter.overLimit, BodyWriter.leftToSend, hm, hover]

/-- **C04 (refusal: after the end).** Any non-empty write after the body is finished is refused with the
    state unchanged (whatever its length). -/
theorem C04_refuse_after (c : CallSt) (input : Bytes) (cap : Nat)
    (hne : input ≠ []) (he : c.writer.ended = true) :
    c.writeBodyPhase input cap = (c, .error (.api .bodyContentAfterFinish)) := by
  unfold CallSt.writeBodyPhase
  simp [List.isEmpty_eq_false_iff.mpr hne, he]

/-- **C04 (direct write).** A reported direct write of at most the remaining bytes is accounted in full;
    a larger one is refused with the state unchanged. -/
theorem C04_direct (c : CallSt) (left n : Nat) (hm : c.writer.mode = .sized left) :
    (n ≤ left → c.consumeDirect n =
      ({ c with writer := { mode := .sized (left - n), ended := c.writer.ended || left - n == 0 } }, .ok ())) ∧
    (n > left → c.consumeDirect n = (c, .error (.api .bodyLargerThanContentLength))) := by
  unfold CallSt.consumeDirect
  simp only [hm]
  constructor
  · intro h
    have : ¬ n > left := by omega
    simp [this]
  · intro h
    simp [h]

def SizedInv (c : CallSt) (N acc : Nat) : Prop :=
  ∃ left, c.writer.mode = .sized left ∧ left + acc = N ∧ (c.writer.ended = true → left = 0)

theorem stepSized_sized (c : CallSt) (left : Nat) (hm : c.writer.mode = .sized left) (op : BOp) :
    (∃ k, k ≤ left ∧ stepSized c op =
        ({ c with writer := { mode := .sized (left - k), ended := c.writer.ended || left - k == 0 } }, k)) ∨
    (stepSized c op = (c, 0) ∧
      match op with
      | .write input _ => (input ≠ [] ∧ c.writer.ended = true) ∨ input.length > left
      | .direct n => n > left) := by
  cases op with
  | write input cap =>
    by_cases hfin : input ≠ [] ∧ c.writer.ended = true
    · exact Or.inr ⟨by rw [stepSized, C04_refuse_after c input cap hfin.1 hfin.2], Or.inl hfin⟩
    · by_cases hover : input.length > left
      · have hne : c.writer.ended = false :=
          Bool.eq_false_iff.mpr fun he => hfin ⟨List.ne_nil_of_length_pos (by omega), he⟩
        exact Or.inr ⟨by rw [stepSized, C04_refuse_over c left input cap hm hover hne], Or.inr hover⟩
      · exact Or.inl ⟨min (min cap input.length) left, Nat.min_le_right _ _,
          by rw [stepSized, C04_copy c left input cap hm (by omega) hfin]⟩
  | direct n =>
    by_cases hle : n ≤ left
    · exact Or.inl ⟨n, hle, by rw [stepSized, (C04_direct c left n hm).1 hle]⟩
    · exact Or.inr ⟨by rw [stepSized, (C04_direct c left n hm).2 (by omega)], by omega⟩

theorem stepSized_inv (c : CallSt) (N acc : Nat) (op : BOp) (h : SizedInv c N acc) :
    SizedInv (stepSized c op).1 N (acc + (stepSized c op).2) ∧
    ((stepSized c op).2 > 0 ∨ (∃ i cp, op = .write i cp ∧ i.length ≤ N - acc ∧ ¬ (i ≠ [] ∧ c.writer.ended = true)) ∨ op = .direct 0 →
        (N = acc + (stepSized c op).2 → (stepSized c op).1.writer.ended = true)) := by
  obtain ⟨left, hm, hsum, hend⟩ := h
  rcases stepSized_sized c left hm op with ⟨k, hk, e⟩ | ⟨e, hwhy⟩
  · rw [e]
    refine ⟨⟨left - k, rfl, by omega, fun he => ?_⟩, fun _ hN => ?_⟩
    · rcases Bool.or_eq_true_iff.mp he with he | he
      · have := hend he
        omega
      · exact beq_iff_eq.mp he
    · exact Bool.or_eq_true_iff.mpr (Or.inr (beq_iff_eq.mpr (by omega)))
  · rw [e]
    refine ⟨⟨left, hm, by omega, hend⟩, ?_⟩
    -- a refused op accounts for nothing, and none of the three kinds of op named here is refused
    rintro (h | ⟨i, cp, rfl, hl, hn⟩ | rfl)
    · cases h
    · rcases hwhy with hw | hw
      · exact absurd hw hn
      · omega
    · omega

theorem SizedInv.le {c : CallSt} {N acc : Nat} (h : SizedInv c N acc) : acc ≤ N := by
  obtain ⟨left, _, hsum, _⟩ := h
  omega

theorem SizedInv.ended_eq {c : CallSt} {N acc : Nat} (h : SizedInv c N acc) (he : c.writer.ended = true) : acc = N := by
  obtain ⟨left, _, hsum, hend⟩ := h
  have := hend he
  omega

theorem runSized_inv (ops : List BOp) : ∀ (c : CallSt) (N acc : Nat), SizedInv c N acc →
    SizedInv (runSized c ops).1 N (acc + (runSized c ops).2) := by
  induction ops with
  | nil => exact fun c N acc h => h
  | cons op ops ih =>
    intro c N acc h
    have hrest := ih (stepSized c op).1 N (acc + (stepSized c op).2) (stepSized_inv c N acc op h).1
    rwa [Nat.add_assoc] at hrest

/-- **C04 (total).** Over any sequence of writes and direct-write reports on a body declared with
    `Content-Length: N`, the bytes accounted for never exceed `N`, and the body is reported finished
    only when exactly `N` bytes have been accounted for. -/
theorem C04_total (ops : List BOp) : ∀ (c : CallSt) (N acc : Nat), SizedInv c N acc →
    SizedInv (runSized c ops).1 N (acc + (runSized c ops).2) ∧ acc + (runSized c ops).2 ≤ N ∧
    ((runSized c ops).1.writer.ended = true → acc + (runSized c ops).2 = N) := by
  intro c N acc h
  have hinv := runSized_inv ops c N acc h
  exact ⟨hinv, hinv.le, hinv.ended_eq⟩

/-- **C04 (finished is reached).** Once `N` bytes are accounted for, the call that reached `N` — or, when
    they already were (in particular `N = 0`), any accepted write (also an empty one) or `direct 0` —
    leaves the body reported finished. -/
theorem C04_finished (c : CallSt) (N acc : Nat) (op : BOp) (h : SizedInv c N acc)
    (hop : (stepSized c op).2 > 0 ∨ (∃ i cp, op = .write i cp ∧ i.length ≤ N - acc ∧ ¬ (i ≠ [] ∧ c.writer.ended = true)) ∨ op = .direct 0)
    (hN : N = acc + (stepSized c op).2) : (stepSized c op).1.writer.ended = true :=
  (stepSized_inv c N acc op h).2 hop hN

/-- non-vacuity: a fresh sized body satisfies the invariant -/
def c04Example (N : Nat) : CallSt :=
  { req := { method := .post, version := .h11, uri := { scheme := "http", host := "a", port := none, path := "/", query := none }, orig := [] },
    analyzed := true, phase := .sendBody, writer := BodyWriter.newSized N }

example (N : Nat) : SizedInv (c04Example N) N 0 := ⟨N, rfl, rfl, by simp [c04Example, BodyWriter.newSized]⟩
