import Hoot.Model.Flow
import Hoot.Proofs.ChunkInv2
import Hoot.Proofs.SizeField

/-! # C07 — chunked response decoding yields exactly the payload and never over-reads

The grammar (`V2.SizeLine`, `V2.Chunk`, `V2.Rem`) is in `Hoot/Spec/Chunked.lean`, the schedule theorem
`V2.C07_schedule` in `Hoot/Proofs/ChunkInv2.lean`; this file ties them to the operation the driver replays
(`CallSt.read`, i.e. call.rs `Call<RecvBody>::read` → body.rs `read_chunked` → chunk.rs) and states
the property. -/

open V2

theorem read_chunked_eq (c : CallSt) (d : Dechunker) (h : c.reader = some (.chunked d)) (w : Bytes) (cap : Nat) :
    c.read w cap =
      match callReadS d w cap c.stopBoundary with
      | (d', .ok (i, o)) => ({ c with reader := some (.chunked d') }, .ok (i, o))
      | (d', .error e) => ({ c with reader := some (.chunked d') }, .error (toFault e)) := by
  unfold CallSt.read callReadS
  simp only [h, readerEnded]
  by_cases he : d = .ended
  · -- already ended: nothing is read and the record update writes back what `h` says is there
    subst he
    cases c
    simp_all
  · have : (d == Dechunker.ended) = false := by simpa using he
    simp only [this, Bool.false_eq_true, if_false]
    rcases hq : readChunkedS (w.length + 2) d w cap c.stopBoundary with ⟨d', r⟩
    cases r with
    | ok v => rfl
    | error e => rfl

/-- **C07.** For a valid chunked coding (any chunk sizes, any hex spelling the size parser accepts,
    extensions, trailers) followed by arbitrary bytes of a next message, every schedule of arrival
    windows, output sizes and boundary-stop settings: no read fails; the outputs concatenate to a prefix of
    the chunk data; only bytes of the coding are consumed; the body is reported ended exactly when the
    whole coding including its final CRLF has been consumed, and then the output is exactly the chunk
    data and the next message is untouched. -/
theorem C07 (σ : List ReadStep) (r : Rem) (hr : r.wf) (hrest : r.atRest) (tail : Bytes) :
    ∃ (r' : Rem) (used : Nat) (out : Bytes),
      runReads r.state (r.enc ++ tail) σ = some (r'.state, used, out) ∧
      used ≤ r.enc.length ∧ r.payload = out ++ r'.payload ∧
      (r'.state = .ended ↔ used = r.enc.length) ∧
      (r'.state = .ended → out = r.payload ∧ (r.enc ++ tail).drop used = tail) := by
  obtain ⟨r', used, out, hrun, _, _, hle, _, hpay, hend, hfin⟩ := C07_schedule σ r hr hrest tail
  exact ⟨r', used, out, hrun, hle, hpay, hend, hfin⟩

/-- **C07 (boundary stop).** With stopping on chunk boundaries enabled, a single read — from any valid
    position, on any window of the remaining stream, into any output space — returns only data of the
    current chunk (`Rem.curChunk`: the rest of the open chunk, or the chunk about to start when standing on
    a boundary): never data from two different chunks. -/
theorem C07_boundary (r : Rem) (hr : r.wf) (hrest : r.atRest) (tail : Bytes) (m cap : Nat) :
    ∃ (d' : Dechunker) (n : Nat) (out : Bytes),
      callReadS r.state ((r.enc ++ tail).take m) cap true = (d', .ok (n, out)) ∧ out <+: r.curChunk := by
  obtain ⟨r', n, out, hread, p⟩ := callReadS_adv r hr hrest tail m cap true
  exact ⟨r'.state, n, out, hread, p.inChunk rfl⟩

/-- **C07 (progress).** A caller that offers everything that remains of the coding (plus whatever follows)
    with room for at least one byte is never stuck: unless the body has already ended, the read consumes
    at least one byte. Together with `C07` (consumed bytes are coding bytes, at most |coding|) a sane
    caller finishes after finitely many reads. -/
theorem C07_progress (r : Rem) (hr : r.wf) (hrest : r.atRest) (tail : Bytes) (m cap : Nat) (stop : Bool)
    (hm : r.enc.length ≤ m) (hcap : 1 ≤ cap) (hne : r.state ≠ .ended) :
    ∃ (d' : Dechunker) (n : Nat) (out : Bytes),
      callReadS r.state ((r.enc ++ tail).take m) cap stop = (d', .ok (n, out)) ∧ 0 < n := by
  obtain ⟨r', n, out, hread, p⟩ := callReadS_adv r hr hrest tail m cap stop
  exact ⟨r'.state, n, out, hread, p.live hm (Or.inl hcap) hne⟩

/-- **C07 (the rest of the framing needs no output space).** Once the whole payload has been delivered
    (`r.payload = []`: what remains is the CRLF after the last chunk, the last-chunk line, trailers, the final
    CRLF), a caller that offers everything that remains is never stuck *whatever the size of its output
    buffer, zero included*: the read consumes at least one byte and produces nothing. A caller that reads the
    payload into a buffer of exactly the payload's length therefore still sees the body end. -/
theorem C07_progress_tail (r : Rem) (hr : r.wf) (hrest : r.atRest) (tail : Bytes) (m cap : Nat) (stop : Bool)
    (hm : r.enc.length ≤ m) (hpay : r.payload = []) (hne : r.state ≠ .ended) :
    ∃ (d' : Dechunker) (n : Nat),
      callReadS r.state ((r.enc ++ tail).take m) cap stop = (d', .ok (n, [])) ∧ 0 < n := by
  obtain ⟨r', n, out, hread, p⟩ := callReadS_adv r hr hrest tail m cap stop
  have ho : out = [] := (List.append_eq_nil_iff.mp (hpay ▸ p.adv.payload).symm).1
  exact ⟨r'.state, n, ho ▸ hread, p.live hm (Or.inr hpay) hne⟩

/-- The semantic hypothesis of the grammar ("the size field parses to n") is met by every run of hex
    digits, upper or lower case, with leading zeros, whose value fits `usize`. -/
theorem C07_sizefield (ds : Bytes) (hne : ds ≠ []) (h : ∀ b ∈ ds, isHexB b = true) (hle : hexValue ds ≤ USIZE_MAX) :
    parseSizeField ds = .ok (hexValue ds) := parseSizeField_hex ds hne h hle

/-- an instance to look at, the start of the coding `2;x CRLF ab CRLF 0 CRLF T:v CRLF CRLF`; `Rem.wf` is not proved
    for it, so it shows the encoding and is no witness that the hypotheses can be met (`C03_roundtrip` proves `wf`
    for every coding the writer emits) -/
def c07Line2 : SizeLine := { digits := [50], ext := [59, 120], val := 2 }
def c07Last : SizeLine := { digits := [48], ext := [], val := 0 }
def c07Rem : Rem := .atSize [{ line := c07Line2, data := [97, 98] }] c07Last [[84, 58, 118]]

example : c07Rem.atRest := by simp [c07Rem, Rem.atRest]
#guard c07Rem.enc == [50, 59, 120, 13, 10, 97, 98, 13, 10, 48, 13, 10, 84, 58, 118, 13, 10, 13, 10]

/-- the situation of `C07_progress_tail` on it (`Rem.wf` again not proved): behind the last data byte nothing is left to
    deliver and the body has not ended; two reads into a zero-byte output consume the CRLF (2 bytes), then
    `0` CRLF `T:v` CRLF CRLF (10 bytes), and the body has ended (evaluated) -/
def c07Tail : Rem := .atCrlf [] c07Last [[84, 58, 118]]
example : c07Tail.atRest ∧ c07Tail.payload = [] ∧ c07Tail.state ≠ .ended := by
  simp [c07Tail, Rem.atRest, Rem.payload, Rem.state, payloadOf]

#guard (match callReadS c07Tail.state (c07Tail.enc ++ [72, 84]) 0 false with
  | (d, .ok (n, out)) => n == 2 && out.isEmpty &&
    (match callReadS d ((c07Tail.enc ++ [72, 84]).drop n) 0 false with
     | (d', .ok (n', out')) => n' == 10 && out'.isEmpty && d' == .ended
     | _ => false)
  | _ => false)
