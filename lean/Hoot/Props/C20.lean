import Hoot.Props.C05
import Hoot.Proofs.ReqProof

/-! # C20 — standalone head parsers round-trip well-formed heads and honour their limits

Response side: the scanner theorems hold for every limit `N : Nat` (the harness runs the const-generic parsers
at the 17 limits compiled into harness/src/exec.rs). Request side (`parseReq`, Model/ReqParse.lean; grammar `RHead` in Spec/Head.lean: method token, non-empty
request target over httparse's URI bytes, version 1.0/1.1, fields as for responses): the same three
theorems, for every limit N. -/

/-- **C20 (response, complete).** A well-formed head with at most `N` fields followed by arbitrary bytes:
    status, version, all fields, and exactly the head's length. -/
theorem C20_resp_exact (h : Head) (hw : h.wf) (N : Nat) (hs : h.fields.length ≤ N) (hc : 100 ≤ h.codeVal)
    (hn : h.namesShort) (rest : Bytes) :
    tryParseResponse N (h.enc ++ rest) =
      .ok (some (h.enc.length, { version := h.ver, status := h.codeVal, fields := fieldsOf (h.fields.map Field.pair) })) :=
  C05_exact h hw N hs hc hn rest

/-- **C20 (response, incomplete).** Every strict prefix of a head within the limit is "incomplete". -/
theorem C20_resp_prefix (h : Head) (hw : h.wf) (N : Nat) (hs : h.fields.length ≤ N) (n : Nat) (hn : n < h.enc.length) :
    tryParseResponse N (h.enc.take n) = .ok none := C05_prefix h hw N hs n hn

/-- **C20 (limit, exactly).** The complete head is rejected with too-many-headers iff it has more fields
    than the limit. -/
theorem C20_resp_too_many_iff (h : Head) (hw : h.wf) (N : Nat) (hc : 100 ≤ h.codeVal) (hn : h.namesShort) (rest : Bytes) :
    tryParseResponse N (h.enc ++ rest) = .error (.api .httpParseTooManyHeaders) ↔ N < h.fields.length := by
  constructor
  · intro he
    apply Nat.lt_of_not_le
    intro hle
    rw [C05_exact h hw N hle hc hn rest] at he
    cases he
  · exact fun hlt => C05_limit h hw N hlt rest

/-- **C20 (partial parser).** On every strict prefix of a well-formed head that respects the limit the
    partial parser never fails, and whatever it reports is the head's status and version with an initial
    segment of the head's own fields (cut at the first empty value) — never a field that is not a complete
    field of the head. -/
theorem C20_partial (h : Head) (hw : h.wf) (N : Nat) (hs : h.fields.length ≤ N) (hc : 100 ≤ h.codeVal)
    (hn : h.namesShort) (n : Nat) (hlt : n < h.enc.length) :
    tryParsePartial N (h.enc.take n) = .ok none ∨
    ∃ (k0 t : List (Bytes' × Bytes')), h.fields.map Field.pair = k0 ++ t ∧
      tryParsePartial N (h.enc.take n) =
        .ok (some { version := h.ver, status := h.codeVal, fields := fieldsOf (keepNonEmpty k0) }) := by
  obtain ⟨st, hst, he⟩ := prefix_state_ext h hw N hs n hlt
  exact tryParsePartial_more hst he hc hn

theorem C20_partial_complete (h : Head) (hw : h.wf) (N : Nat) (hs : h.fields.length ≤ N) (hc : 100 ≤ h.codeVal)
    (hn : h.namesShort) (rest : Bytes) :
    tryParsePartial N (h.enc ++ rest) =
      .ok (some { version := h.ver, status := h.codeVal, fields := fieldsOf (keepNonEmpty (h.fields.map Field.pair)) }) := by
  unfold tryParsePartial
  rw [resp_forward h hw N hs rest]
  exact partialFinish_some hc hn (List.Subset.refl _)

/-- **C20 (request, complete).** A well-formed request head (method a valid `http::Method`, at most `N`
    fields) followed by arbitrary bytes: the method, the version, all fields, exactly the head's length. -/
theorem C20_req_exact (h : RHead) (hw : h.wf) (N : Nat) (hs : h.fields.length ≤ N)
    (hm : validHttpMethod h.method = true) (hn : h.namesShort) (rest : Bytes) :
    tryParseRequest N (h.enc ++ rest) =
      .ok (some (h.enc.length, { method := h.method, version := h.ver, fields := fieldsOf (h.fields.map Field.pair) })) := by
  unfold tryParseRequest
  rw [req_forward h hw N hs rest]
  simp [hm, no_long_name hn (List.Subset.refl _)]

/-- **C20 (request, incomplete).** Every strict prefix of a request head within the limit is "incomplete". -/
theorem C20_req_prefix (h : RHead) (hw : h.wf) (N : Nat) (hs : h.fields.length ≤ N) (n : Nat) (hn : n < h.enc.length) :
    tryParseRequest N (h.enc.take n) = .ok none := by
  obtain ⟨st, hst⟩ := req_prefix h hw N hs n hn
  unfold tryParseRequest
  rw [hst]

/-- **C20 (request, limit exactly).** -/
theorem C20_req_too_many_iff (h : RHead) (hw : h.wf) (N : Nat) (hm : validHttpMethod h.method = true)
    (hn : h.namesShort) (rest : Bytes) :
    tryParseRequest N (h.enc ++ rest) = .error (.api .httpParseTooManyHeaders) ↔ N < h.fields.length := by
  constructor
  · intro he
    apply Nat.lt_of_not_le
    intro hle
    rw [C20_req_exact h hw N hle hm hn rest] at he
    cases he
  · intro hlt
    unfold tryParseRequest
    rw [req_too_many h hw N hlt rest]

/-- non-vacuity: `GET /x HTTP/1.1` with one field -/
def c20Req : RHead := { method := [71, 69, 84], target := [47, 120], ver := 1, fields := [c05Field] }
example : c20Req.wf := by
  refine ⟨by decide, ?_, by decide, ?_, by decide, ?_⟩
  · intro b hb; simp [c20Req] at hb; rcases hb with rfl | rfl | rfl <;> decide
  · intro b hb; simp [c20Req] at hb; rcases hb with rfl | rfl <;> decide
  · intro f hf; simp [c20Req] at hf; subst hf; exact Field.wf_of_wfb _ (by decide +kernel)
