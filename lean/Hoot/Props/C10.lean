import Hoot.Model.Uri
import Hoot.Proofs.FlowWF
import Hoot.Props.C09

/-! # C10 — the connection-reuse verdict is exactly the disjunction of the close conditions

The verdict is "the close-reason list is non-empty" (flow.rs `must_close_connection`). The theorems pin
down exactly when each reason enters the list: at construction (HTTP/1.0 request, `Connection: close` on
the original request), when a non-100 response arrives while awaiting 100, when a returned response
carries `Connection: close`, and when a close-delimited body is entered — and at no other step. -/

/-- **C10 (verdict and reason).** In the redirect and cleanup states alike: must-close iff some reason is
    recorded; a reason text is given exactly then, and it is the explanation of a recorded reason. -/
theorem C10_verdict (f : Flow) :
    (stepRedirect f .mustClose).2 = .bool (!f.closeReasons.isEmpty) ∧
    (stepCleanup f .mustClose).2 = .bool (!f.closeReasons.isEmpty) ∧
    (stepRedirect f .reason).2 = (stepCleanup f .reason).2 ∧
    (f.closeReasons = [] → (stepCleanup f .reason).2 = .str "-") ∧
    (∀ r rest, f.closeReasons = r :: rest → (stepCleanup f .reason).2 = .str r.explain) := by
  refine ⟨rfl, rfl, rfl, ?_, ?_⟩
  · intro h; simp [stepCleanup, closeText, h]
  · intro r rest h; simp [stepCleanup, closeText, h]

/-- **C10 (construction).** A new flow (also one produced by following a redirect: it is rebuilt from the
    original request) starts with exactly: HTTP/1.0 iff the request is 1.0, client-close iff the original
    request carries `Connection: close`. -/
theorem C10_initial (m : Method) (v : Version) (u : Uri) (orig : List Hdr) (r : CloseReason) :
    r ∈ (Flow.new m v u orig).closeReasons ↔
      (r = .http10 ∧ v = .h10) ∨ (r = .clientClose ∧ hasHdr orig "connection" "close" = true) := by
  unfold Flow.new
  cases v <;> cases hasHdr orig "connection" "close" <;> cases r <;> simp

theorem closeEvent_loud {hack : Bool} {f : Flow} {op : Op} {r : CloseReason} (h : closeEvent hack f op r) :
    (f.st = .await100 ∧ ∃ w, op = .read100 w) ∨ (f.st = .recvResponse ∧ ((∃ w, op = .resp w) ∨ op = .proceed)) := by
  unfold closeEvent at h
  split at h
  · exact .inl ⟨‹_›, _, rfl⟩
  · exact .inr ⟨‹_›, .inl ⟨_, rfl⟩⟩
  · exact .inr ⟨‹_›, .inr rfl⟩
  · exact h.elim

theorem closeEvent_read100 {hack : Bool} {f : Flow} {w : Bytes} {r : CloseReason} (hs : f.st = .await100) :
    closeEvent hack f (.read100 w) r ↔ r = .not100 ∧ refuses w := by
  unfold closeEvent
  rw [hs]
  cases r
  case not100 => exact ⟨fun h => ⟨rfl, h⟩, fun h => h.2⟩
  all_goals exact ⟨False.elim, fun h => nomatch h.1⟩

theorem closeEvent_resp {hack : Bool} {f : Flow} {w : Bytes} {r : CloseReason} (hs : f.st = .recvResponse) :
    closeEvent hack f (.resp w) r ↔ r = .serverClose ∧ (f.holder = .recvResponse ∧
      ∃ u resp, (callTryResponse hack f.call w).2 = .ok (some (u, resp)) ∧
        ¬ (resp.status = 100 ∧ f.await100 = true) ∧ hasHdr resp.fields "connection" "close" = true) := by
  unfold closeEvent
  rw [hs]
  cases r
  case serverClose => exact ⟨fun h => ⟨rfl, h⟩, fun h => h.2⟩
  all_goals exact ⟨False.elim, fun h => nomatch h.1⟩

theorem closeEvent_proceed {hack : Bool} {f : Flow} {r : CloseReason} (hs : f.st = .recvResponse) :
    closeEvent hack f .proceed r ↔ r = .closeDelimited ∧ (f.canProceed = .ok true ∧ f.call.reader = some .close) := by
  unfold closeEvent
  rw [hs]
  cases r
  case closeDelimited => exact ⟨fun h => ⟨rfl, h⟩, fun h => h.2⟩
  all_goals exact ⟨False.elim, fun h => nomatch h.1⟩

theorem event_yes {l l' : List CloseReason} {r x : CloseReason} {P : Prop} (hp : P)
    (hm : ∀ y, y ∈ l' ↔ y ∈ l ∨ y = x) : r ∈ l' ↔ r ∈ l ∨ (r = x ∧ P) := by
  rw [hm]
  exact or_congr_right ⟨fun e => ⟨e, hp⟩, And.left⟩

theorem event_no {l l' : List CloseReason} {r x : CloseReason} {P : Prop} (hnp : ¬ P) (e : l' = l) :
    r ∈ l' ↔ r ∈ l ∨ (r = x ∧ P) := by
  rw [e]
  exact ⟨.inl, fun h => h.resolve_right fun e => hnp e.2⟩

/-- **C10 (steps).** For every operation on a well-formed flow: a reason is recorded afterwards iff it was
    recorded before or this very step is one of the three events — so over any history the list holds
    exactly the conditions that happened (and, being duplicate-free, at most the five there are). -/
theorem C10_step (hack : Bool) (f : Flow) (op : Op) (hwf : f.WF) (r : CloseReason) :
    r ∈ (f.step hack op).1.closeReasons ↔ r ∈ f.closeReasons ∨ closeEvent hack f op r := by
  have hnd := hwf.nodup
  by_cases hq : (f.st = .await100 ∧ ∃ w, op = .read100 w) ∨
      (f.st = .recvResponse ∧ ((∃ w, op = .resp w) ∨ op = .proceed))
  case neg =>
    rw [step_reasons_quiet hack f op (fun hs w e => hq (.inl ⟨hs, w, e⟩))
      (fun hs => ⟨fun w e => hq (.inr ⟨hs, .inl ⟨w, e⟩⟩), fun e => hq (.inr ⟨hs, .inr e⟩)⟩)]
    exact ⟨.inl, fun h => h.resolve_right fun he => hq (closeEvent_loud he)⟩
  rcases hq with ⟨hs, w, rfl⟩ | ⟨hs, ⟨w, rfl⟩ | rfl⟩
  · rw [flow_step_await100 hs, closeEvent_read100 hs]
    by_cases hr : refuses w
    · obtain ⟨l, _, hm, e⟩ := refuse100_spec { f with await100 := false } hnd
      rw [await_refused f w hr, e]
      exact event_yes hr hm
    · rw [await_not_refused f w hr]
      refine event_no hr ?_
      cases tryParseResponse 0 w with
      | ok v => cases v <;> rfl
      | error e => rfl
  · have hh : f.holder = .recvResponse := by simpa [holderOk, hs] using hwf.holder
    rw [flow_step_recvResponse hs, closeEvent_resp hs, stepRecvResponse_resp hack w hh hnd]
    rcases callTryResponse hack f.call w with ⟨c1, r1⟩
    cases r1 with
    | error e => exact event_no (by simp) rfl
    | ok v =>
      cases v with
      | none => exact event_no (by simp) rfl
      | some p =>
        obtain ⟨used, resp⟩ := p
        dsimp only
        split
        · rename_i hlate
          have : resp.status = 100 ∧ f.await100 = true := by simpa using hlate
          exact event_no (by simp [this]) rfl
        · rename_i hlate
          have hnl : ¬ (resp.status = 100 ∧ f.await100 = true) := by simpa using hlate
          dsimp only
          split
          · rename_i hcl
            exact event_yes ⟨hh, _, _, rfl, hnl, hcl⟩ fun y => pushReason_mem_iff _ _ y hnd
          · rename_i hcl
            exact event_no (by simp [hcl]) rfl
  · have hh : f.holder = .recvResponse := by simpa [holderOk, hs] using hwf.holder
    rw [flow_step_recvResponse hs, closeEvent_proceed hs]
    obtain ⟨b, hc⟩ := canProceed_ok f hwf
    cases b with
    | false =>
      rw [← flow_step_recvResponse (hack := hack) hs, proceed_not_ready hack hc]
      exact event_no (by simp [hc]) rfl
    | true =>
      have hrd : f.call.reader.isSome = true := by simpa [Flow.canProceed, hs, hh] using hc
      obtain ⟨rd, hr⟩ := Option.isSome_iff_exists.mp hrd
      rw [stepRecvResponse_proceed hack hs hh hr hnd]
      dsimp only
      split
      · rename_i hcl
        exact event_yes ⟨hc, by rw [hr, hcl]⟩ fun y => pushReason_mem_iff _ _ y hnd
      · rename_i hcl
        exact event_no (by simp [hr, hcl]) rfl

/-- **C10 (history).** After any sequence of permitted calls the recorded reasons are exactly those
    recorded at the start together with the close events that happened along the way: the verdict
    "must close" is the disjunction of the construction-time conditions and those events — nothing is
    ever dropped, nothing else is ever added. -/
theorem C10_history (hack : Bool) (ops : List Op) : ∀ (f : Flow), f.WF → okAlong hack f ops → ∀ r : CloseReason,
    (r ∈ (runOps hack f ops).1.closeReasons ↔ r ∈ f.closeReasons ∨ eventsAlong hack f ops r) := by
  induction ops with
  | nil => intro f _ _ r; simp [runOps, eventsAlong]
  | cons op ops ih =>
    intro f hwf hok r
    obtain ⟨_, h2⟩ := wf_step hack f op hwf hok.1
    have hstep := C10_step hack f op hwf r
    have hrest := ih (f.step hack op).1 h2 hok.2 r
    simp only [runOps, eventsAlong]
    rw [hrest, hstep, or_assoc]

/-- **C10 (whole life of a flow).** For a flow built from a request and driven by any permitted history:
    must-close at the end iff the request is HTTP/1.0, or carries `Connection: close`, or one of the close
    events happened. -/
theorem C10_life (hack : Bool) (m : Method) (v : Version) (u : Uri) (orig : List Hdr) (ops : List Op)
    (hok : okAlong hack (Flow.new m v u orig) ops) :
    ((runOps hack (Flow.new m v u orig) ops).1.closeReasons ≠ [] ↔
      v = .h10 ∨ hasHdr orig "connection" "close" = true ∨ ∃ r, eventsAlong hack (Flow.new m v u orig) ops r) := by
  have hh := C10_history hack ops (Flow.new m v u orig) (C09_init m v u orig) hok
  constructor
  · intro hne
    obtain ⟨r, hr⟩ := List.exists_mem_of_ne_nil _ hne
    rcases (hh r).mp hr with h | h
    · rcases (C10_initial m v u orig r).mp h with ⟨_, hv⟩ | ⟨_, hc⟩
      · exact Or.inl hv
      · exact Or.inr (Or.inl hc)
    · exact Or.inr (Or.inr ⟨r, h⟩)
  · rintro (hv | hc | ⟨r, hr⟩)
    · exact List.ne_nil_of_mem ((hh .http10).mpr (.inl ((C10_initial m v u orig _).mpr (.inl ⟨rfl, hv⟩))))
    · exact List.ne_nil_of_mem ((hh .clientClose).mpr (.inl ((C10_initial m v u orig _).mpr (.inr ⟨rfl, hc⟩))))
    · exact List.ne_nil_of_mem ((hh r).mpr (.inr hr))

/-- **C10 (capacity).** The list never needs more than the five slots it has. -/
theorem C10_cap (f : Flow) (hwf : f.WF) : f.closeReasons.length ≤ 5 := nodup_length_le_5 _ hwf.nodup

example : CloseReason.http10 ∈ (Flow.new .get .h10 { scheme := "http", host := "a", port := none, path := "/", query := none } []).closeReasons :=
  (C10_initial _ _ _ _ _).mpr (Or.inl ⟨rfl, rfl⟩)

/-- **C10 (the prepare state decides nothing).** Whatever the caller does while the flow is in the prepare
    state — headers added (a second `Connection` field of any value among them), `send_body_despite_method`,
    queries, advancing — the list of close reasons stays exactly what `Flow::new` derived from the request as
    the caller made it (`C10_initial`). -/
theorem C10_prepare (hack : Bool) (f : Flow) (op : Op) (hs : f.st = .prepare) :
    (f.step hack op).1.closeReasons = f.closeReasons := by
  rw [flow_step_prepare hs, stepPrepare_reasons]
