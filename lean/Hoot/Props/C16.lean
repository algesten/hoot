import Hoot.Model.Flow
import Hoot.Proofs.FlowParts
import Hoot.Props.C02
import Hoot.Proofs.HeadersMap

/-! # C16 — headers the caller adds before sending always reach the wire

The effective headers are `added ++ (original minus inherited-unset)` (amended.rs `headers()`, after
repair D2): the unset list installed by a redirect never touches `added`. By `C02_render` the head lists
the effective headers in this order, so the caller's lines come first, whatever their names. -/

/-- **C16 (order).** The caller-added headers are the first effective headers, in the order added — for
    any unset list (any redirect depth, either auth policy). -/
theorem C16_order (r : AReq) : r.headers.take r.added.length = r.added := by
  unfold AReq.headers
  simp

theorem C16_inherited_still_suppressed (r : AReq) (h : Hdr) (hin : h ∈ r.headers.drop r.added.length) :
    r.unset.contains h.name = false := by
  unfold AReq.headers at hin
  simp at hin
  simpa using hin.2

/-- **C16 (adding).** `Flow<Prepare>::header` appends to the added list (within the documented budget of
    64) and changes nothing else of the request. -/
theorem C16_add (f : Flow) (h : Hdr) (hv : validHeaderValue h.value = true) (hl : f.call.req.added.length < MAX_EXTRA) :
    (stepPrepare f (.header h)).1.call.req.added = f.call.req.added ++ [h] ∧
    (stepPrepare f (.header h)).1.call.req.orig = f.call.req.orig ∧
    (stepPrepare f (.header h)).1.call.req.unset = f.call.req.unset ∧
    (stepPrepare f (.header h)).2 = .unit := by
  unfold stepPrepare
  simp [hv, setHeader_ok f.call.req h hl, resOfUnit]

/-- **C16 (analysis keeps them first).** Request analysis only appends (Host, framing header) after the
    caller's additions. -/
theorem C16_analysis_appends (c : CallSt) :
    ∃ extra, c.analyzeRequest.1.req.added = c.req.added ++ extra ∧
      c.analyzeRequest.1.req.orig = c.req.orig ∧ c.analyzeRequest.1.req.unset = c.req.unset := by
  obtain ⟨extra, hadd, horig, hunset, _⟩ := analyzeRequest_extra c
  exact ⟨extra, hadd, horig, hunset⟩

/-- **C16 (as seen through `headers_map()`).** Every name the caller added has an entry in the map the
    accessor returns; and when the name is one the redirect suppresses among the inherited headers, that entry
    is one of the request's own (the caller's, or the derived Host / framing header) — never the inherited one,
    and never missing. -/
theorem C16_headers_map (c c1 : CallSt) (m : List Hdr) (hm : c.headersMap = (c1, .ok m))
    (a : Hdr) (ha : a ∈ c.req.added) :
    ∃ h ∈ m, h.name = a.name ∧ (c.req.unset.contains a.name = true → h ∈ c1.req.added) := by
  obtain ⟨hc1, rfl⟩ := headersMap_ok hm
  obtain ⟨extra, hadd, _, hu, _⟩ := analyzeRequest_extra c
  have hin : ∃ h ∈ c.analyzeRequest.1.req.headers, h.name = a.name := by
    refine ⟨a, ?_, rfl⟩
    rw [AReq.headers, hadd]
    simp [ha]
  obtain ⟨h, hmem, hname⟩ := headersMapOf_complete hin
  refine ⟨h, hmem, hname, ?_⟩
  intro hs
  have hh := headersMapOf_sub hmem
  unfold AReq.headers at hh
  rw [List.mem_append] at hh
  rcases hh with hh | hh
  · rwa [hc1]
  · rw [List.mem_filter, hu, hname, hs] at hh
    cases hh.2

/-- the map has one entry per name, and it is the last effective header of that name (what
    `HeaderMap::insert` leaves) -/
theorem C16_headers_map_last (c c1 : CallSt) (m : List Hdr) (hm : c.headersMap = (c1, .ok m)) (a b : Hdr)
    (ha : a ∈ m) (hb : b ∈ m) : (a.name = b.name → a = b) ∧ lastNamed c1.req.headers a.name = some a := by
  obtain ⟨hc1, rfl⟩ := headersMap_ok hm
  exact ⟨headersMapOf_unique ha hb, by rw [hc1]; exact mem_headersMapOf.mp ha⟩

/-- **C16 (on the wire).** The rendered head is: request line, the caller's lines in order, then the
    rest. -/
theorem C16_render (r : AReq) :
    renderHead r = requestLine r ++ ((r.added.map (fun h => strBytes (h.name ++ ": ") ++ h.value ++ crlf)).flatten ++
      ((r.orig.filter (fun h => !r.unset.contains h.name)).map (fun h => strBytes (h.name ++ ": ") ++ h.value ++ crlf)).flatten) ++ crlf := by
  unfold renderHead AReq.headers
  simp [List.map_append, List.flatten_append]

-- a test, not a proof (string order does not reduce in the kernel)
#guard headersMapOf [{ name := "x", value := [49] }, { name := "a", value := [50] }, { name := "x", value := [51] }]
    = [{ name := "a", value := [50] }, { name := "x", value := [51] }]

example : ({ method := .get, version := .h11, uri := { scheme := "http", host := "a", port := none, path := "/", query := none },
             orig := [{ name := "cookie", value := [49] }], added := [{ name := "cookie", value := [50] }], unset := ["cookie"] } : AReq).headers
          = [{ name := "cookie", value := [50] }] := by decide
