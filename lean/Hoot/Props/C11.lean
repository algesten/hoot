import Hoot.Proofs.FlowParts
import Hoot.Props.C05

/-! # C11 — Expect: 100-continue handshake: the body is sent iff the server did not refuse

`try_read_100` parses with zero header slots, so: a bare head (no fields) completes; a head with fields
raises too-many-headers exactly when its first field line is complete; anything shorter is
"need more data". -/

/-- **C11 (undecided).** Input on which the zero-slot parser needs more data decides nothing and
    consumes nothing: no field of the flow changes. In particular (`C05_prefix` with N = 0) every strict
    prefix of a bare status line + blank line. -/
theorem C11_undecided (f : Flow) (w : Bytes) (h : tryParseResponse 0 w = .ok none) :
    stepAwait100 f (.read100 w) = (f, .count 0) := by
  unfold stepAwait100
  simp [h]

theorem C11_undecided_bare (f : Flow) (h : Head) (hw : h.wf) (hf : h.fields = []) (n : Nat) (hn : n < h.enc.length) :
    stepAwait100 f (.read100 (h.enc.take n)) = (f, .count 0) :=
  C11_undecided f _ (C05_prefix h hw 0 (by simp [hf]) n hn)

/-- **C11 (undecided, response with fields).** For a head that has fields, input that ends anywhere before
    the end of its FIRST field line — inside the status line, right after it, inside the field — decides
    nothing and consumes nothing (the zero-slot parser only objects when a field line is complete). -/
theorem C11_undecided_fields (fl : Flow) (h : Head) (hw : h.wf) (f : Field) (fs : List Field) (hfs : h.fields = f :: fs)
    (n : Nat) (hn : n < h.statusLine.length + f.enc.length) :
    stepAwait100 fl (.read100 (h.enc.take n)) = (fl, .count 0) := by
  obtain ⟨st, hst⟩ := resp_inside_first_field h hw f fs hfs 0 n hn
  exact C11_undecided fl _ (tryParseResponse_more hst)

/-- **C11 (continue).** A complete bare 100 (any reason phrase) followed by anything is consumed exactly
    and clears the waiting flag; the body is still due. -/
theorem C11_continue (f : Flow) (h : Head) (hw : h.wf) (hf : h.fields = []) (hc : h.codeVal = 100)
    (hsb : f.shouldSendBody = true) (rest : Bytes) :
    stepAwait100 f (.read100 (h.enc ++ rest)) = ({ f with await100 := false }, .count h.enc.length) := by
  unfold stepAwait100
  simp [C05_exact_bare h hw hf 0 (by omega) rest, hc, hsb]

theorem await_refused_spec (f : Flow) (hn : f.closeReasons.Nodup) (w : Bytes) (hp : refuses w) :
    (stepAwait100 f (.read100 w)).2 = .count 0 ∧
    (stepAwait100 f (.read100 w)).1.shouldSendBody = false ∧
    (stepAwait100 f (.read100 w)).1.await100 = false ∧
    CloseReason.not100 ∈ (stepAwait100 f (.read100 w)).1.closeReasons := by
  obtain ⟨l, _, hmem, hr⟩ := refuse100_spec { f with await100 := false } hn
  rw [await_refused f w hp, hr]
  exact ⟨rfl, rfl, rfl, (hmem _).mpr (.inr rfl)⟩

/-- **C11 (refused, no fields).** Any other complete status line without fields consumes nothing, the
    body is no longer due, and the connection is marked must-close. -/
theorem C11_refused_bare (f : Flow) (h : Head) (hw : h.wf) (hf : h.fields = []) (hc : h.codeVal ≠ 100)
    (hc1 : 100 ≤ h.codeVal) (hn : f.closeReasons.Nodup) (rest : Bytes) :
    (stepAwait100 f (.read100 (h.enc ++ rest))).2 = .count 0 ∧
    (stepAwait100 f (.read100 (h.enc ++ rest))).1.shouldSendBody = false ∧
    (stepAwait100 f (.read100 (h.enc ++ rest))).1.await100 = false ∧
    CloseReason.not100 ∈ (stepAwait100 f (.read100 (h.enc ++ rest))).1.closeReasons :=
  await_refused_spec f hn _
    (.inl ⟨_, _, C05_exact_bare h hw hf 0 hc1 rest, hc⟩)

/-- **C11 (refused, with fields).** A complete response head with at least one field — whatever its
    status, whatever follows — consumes nothing, the body is no longer due, must-close. -/
theorem C11_refused_fields (f : Flow) (h : Head) (hw : h.wf) (hf : 0 < h.fields.length)
    (hn : f.closeReasons.Nodup) (rest : Bytes) :
    (stepAwait100 f (.read100 (h.enc ++ rest))).2 = .count 0 ∧
    (stepAwait100 f (.read100 (h.enc ++ rest))).1.shouldSendBody = false ∧
    (stepAwait100 f (.read100 (h.enc ++ rest))).1.await100 = false ∧
    CloseReason.not100 ∈ (stepAwait100 f (.read100 (h.enc ++ rest))).1.closeReasons :=
  await_refused_spec f hn _ (.inr (C05_limit h hw 0 hf rest))

/-- **C11 (edges).** Leaving the await state: body still due (100 received, or the caller gave up) ⇒
    SendBody; refused ⇒ RecvResponse with the call holder converted (so the first `try_response` is
    defined), never requesting the body. -/
theorem C11_proceed (f : Flow) (hh : f.holder = .withBody) (ha : f.call.analyzed = true) :
    (f.shouldSendBody = true → (stepAwait100 f .proceed).2 = .state .sendBody ∧ (stepAwait100 f .proceed).1.st = .sendBody) ∧
    (f.shouldSendBody = false → (stepAwait100 f .proceed).2 = .state .recvResponse ∧
        (stepAwait100 f .proceed).1.st = .recvResponse ∧ (stepAwait100 f .proceed).1.holder = .recvResponse) := by
  rw [stepAwait100_proceed]
  constructor
  · intro hs
    rw [if_pos hs, enterSendBody_of_analyzed ha]
    exact ⟨rfl, rfl⟩
  · intro hs
    rw [if_neg (ne_true_of_eq_false hs)]
    simp only [hh]
    exact ⟨rfl, rfl, rfl⟩

/-- `try_response` on a complete bare 100 followed by anything hands the head out and sets up no body reader -/
theorem callTryResponse_bare100 (hack : Bool) (c : CallSt) (h : Head) (hw : h.wf) (hf : h.fields = [])
    (hc : h.codeVal = 100) (rest : Bytes) :
    callTryResponse hack c (h.enc ++ rest) =
      (c, .ok (some (h.enc.length, { version := h.ver, status := 100, fields := [] }))) := by
  unfold callTryResponse parseWithFallback
  rw [C05_exact_bare h hw hf 128 (by omega) rest, hc]
  rfl

/-- **C11 (late 100).** In the receive state with the handshake still pending, a complete bare 100 is
    consumed exactly, clears the flag and yields no response — so a second 100 is not skipped. -/
theorem C11_late (hack : Bool) (f : Flow) (hh : f.holder = .recvResponse) (ha : f.await100 = true)
    (h : Head) (hw : h.wf) (hf : h.fields = []) (hc : h.codeVal = 100) (rest : Bytes) :
    stepRecvResponse hack f (.resp (h.enc ++ rest)) = ({ f with await100 := false }, .resp h.enc.length none) := by
  have hne : (f.holder != Holder.recvResponse) = false := by simp [hh]
  unfold stepRecvResponse
  simp only [hne, Bool.false_eq_true, if_false, callTryResponse_bare100 hack f.call h hw hf hc rest, ha]
  rfl

/-- non-vacuity: the bare `HTTP/1.1 100 Continue` head -/
def c11Head : Head := { ver := 1, d1 := 49, d2 := 48, d3 := 48, reason := some [67], fields := [] }
example : c11Head.wf ∧ c11Head.fields = [] ∧ c11Head.codeVal = 100 :=
  ⟨Head.wf_of_wfb _ (by decide +kernel), rfl, by decide +kernel⟩
