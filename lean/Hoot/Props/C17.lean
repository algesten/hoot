import Hoot.Props.C02
import Hoot.Proofs.Analyze

/-! # C17 — invalid requests are rejected before a single byte is emitted

`AReq.analyze` is amended.rs `analyze` + ext.rs `verify_version`; `wanted` is the body mode the
constructor asked for (none for `Call::without_body` / bodiless flow methods, chunked for
`Call::with_body`, body methods and `send_body_despite_method`), `skip` the escape hatch. -/

/-- the invalid classes, written from the property text -/
def AReq.invalid (r : AReq) (wanted : BodyWriter) (skip : Bool) : Bool :=
  -- a version other than HTTP/1.0 or 1.1
  (r.version != .h10 && r.version != .h11) ||
  -- a method not defined for the version
  !(r.method.isHttp10 || (r.version == .h11 && r.method.isHttp11)) ||
  -- more than one Host or Content-Length among the effective headers
  decide ((r.getAll "host").length > 1) || decide ((r.getAll "content-length").length > 1) ||
  -- a non-textual Host, a non-numeric Content-Length
  (match (r.getAll "host").head? with | some h => (toStr? h).isNone | none => false) ||
  (match (r.getAll "content-length").head? with | some h => ((toStr? h).bind parseU64).isNone | none => false) ||
  -- a body (framing header or with-body constructor) on a method that takes none, without the escape hatch
  (!skip && !r.method.needBody && (r.hasChunked || (r.getAll "content-length").head?.isSome || wanted.hasBody)) ||
  -- a body-taking method without a body
  (!skip && r.method.needBody && !(r.hasChunked || (r.getAll "content-length").head?.isSome || wanted.hasBody))

theorem bodyModeOf_hasBody (hc : Bool) (cl : Option Nat) (w : BodyWriter) :
    (bodyModeOf hc cl w).hasBody = (hc || cl.isSome || w.hasBody) := by
  unfold bodyModeOf
  cases hc <;> cases cl <;> simp [BodyWriter.hasBody, BodyWriter.newChunked, BodyWriter.newSized]

theorem verifyVersion_toBool (m : Method) (v : Version) :
    ((v != .h10 && v != .h11) || !(m.isHttp10 || (v == .h11 && m.isHttp11))) = !(verifyVersion m v).toBool := by
  unfold verifyVersion
  cases (v != .h10 && v != .h11) <;> cases (m.isHttp10 || (v == .h11 && m.isHttp11)) <;> rfl

theorem hostCheck_toBool (r : AReq) :
    (match (r.getAll "host").head? with | some h => (toStr? h).isNone | none => false) = !r.hostCheck.toBool := by
  unfold AReq.hostCheck
  cases (r.getAll "host").head? with
  | none => rfl
  | some h =>
    dsimp only
    cases toStr? h <;> rfl

theorem contentLength_toBool (r : AReq) :
    (match (r.getAll "content-length").head? with | some h => ((toStr? h).bind parseU64).isNone | none => false) =
      !r.contentLength?.toBool := by
  unfold AReq.contentLength?
  cases (r.getAll "content-length").head? with
  | none => rfl
  | some h =>
    dsimp only
    cases (toStr? h).bind parseU64 <;> rfl

/-- **C17 (iff).** Request analysis fails exactly on the invalid classes. -/
theorem C17_iff (r : AReq) (wanted : BodyWriter) (skip : Bool) :
    (∃ e, r.analyze wanted skip = .error e) ↔ r.invalid wanted skip = true := by
  unfold AReq.analyze AReq.invalid
  -- the version, Host-text and Content-Length-number classes, each as the failure of the check that looks for it
  rw [verifyVersion_toBool, hostCheck_toBool, contentLength_toBool]
  cases verifyVersion r.method r.version with
  | error e => exact ⟨fun _ => rfl, fun _ => ⟨e, rfl⟩⟩
  | ok u =>
    simp only [Except.toBool, Bool.not_true, Bool.false_or]
    by_cases hh : (r.getAll "host").length > 1
    · simp [hh]
    · by_cases hc : (r.getAll "content-length").length > 1
      · simp [hh, hc]
      · simp only [hh, hc, if_false, decide_false, Bool.false_or]
        cases r.hostCheck with
        | error e => exact ⟨fun _ => rfl, fun _ => ⟨e, rfl⟩⟩
        | ok reqHost =>
          cases hcl : r.contentLength? with
          | error e => exact ⟨fun _ => rfl, fun _ => ⟨e, rfl⟩⟩
          | ok cl =>
            simp only [Bool.not_true, Bool.false_or, bodyModeOf_hasBody, contentLength_ok_some hcl]
            cases skip <;> cases r.method.needBody <;>
              cases (r.hasChunked || ((r.getAll "content-length").head?).isSome || wanted.hasBody) <;> simp

/-- **C17 (first write, repeatably).** On an invalid request the write fails with that error, emits
    nothing and leaves the call exactly as it was — so the next attempt does the same, forever, and the
    flow never becomes ready to advance. -/
theorem C17_write_refused (c : CallSt) (hna : c.analyzed = false) (e : ErrKind)
    (h : c.req.analyze c.writer c.skipCheck = .error e) (cap : Nat) (input : Bytes) :
    c.writeNoBody cap = (c, .error (.api e)) ∧ c.writeBody input cap = (c, .error (.api e)) := by
  unfold CallSt.writeNoBody CallSt.writeBody
  rw [analyzeRequest_of_error hna h]
  exact ⟨rfl, rfl⟩

theorem C17_never_ready (f : Flow) (hs : f.st = .sendRequest) (hp : f.call.phase = .sendLine)
    (hh : f.holder = .withoutBody ∨ f.holder = .withBody) : f.canProceed = .ok false := by
  unfold Flow.canProceed
  rcases hh with h | h <;> simp [hs, h, hp, Phase.isPrelude]

/-- **C17 (accepted).** Every request outside the invalid classes is accepted: the first write succeeds or
    reports `OutputOverflow` (buffer smaller than the request line), never another error, never a panic —
    within the documented budget of added headers. -/
theorem C17_accept (c : CallSt) (hna : c.analyzed = false) (hp : c.phase = .sendLine)
    (hcap : c.req.added.length + 2 ≤ MAX_EXTRA)
    (hvalid : c.req.invalid c.writer c.skipCheck = false) (cap : Nat) :
    (c.writeNoBody cap).2 = .error (.api .outputOverflow) ∨ ∃ out, (c.writeNoBody cap).2 = .ok out := by
  cases ha : c.req.analyze c.writer c.skipCheck with
  | error e =>
    have := (C17_iff c.req c.writer c.skipCheck).mp ⟨e, ha⟩
    rw [hvalid] at this
    cases this
  | ok info =>
    -- analysis succeeds (two derived headers at most, and there is room for two); the rest is `writePrelude_eq`
    unfold CallSt.writeNoBody
    rw [analyzeRequest_of_ok_room hna ha hcap]
    generalize hc1 : ({ c with req := c.req.withDerived info, writer := info.bodyMode, analyzed := true } : CallSt) = c1
    have hh1 : c1.req.headers ≠ [] := by
      rw [← hc1]
      exact analyzed_headers_ne_nil ha
    dsimp only
    rw [writePrelude_eq c1 cap hh1 (by rw [← hc1, hp]; trivial)]
    by_cases hov : greedy ((headUnits c1.req).drop (headPos c1)) cap = [] ∧ headPos c1 ≤ c1.req.headers.length
    · rw [if_pos hov]
      exact Or.inl rfl
    · rw [if_neg hov]
      exact Or.inr ⟨_, rfl⟩

example : ({ method := .get, version := .h2, uri := { scheme := "http", host := "a", port := none, path := "/", query := none }, orig := [] } : AReq).invalid BodyWriter.newNone false = true := by
  simp [AReq.invalid]
