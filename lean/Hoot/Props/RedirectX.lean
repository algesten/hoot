import Hoot.Props.C01
import Hoot.Props.C13
import Hoot.Props.C14
import Hoot.Props.C15

/-! The redirect properties C13–C15 composed with C01: what they say of `as_new_flow` holds after a whole exchange
    run under any schedule, and hop by hop along a chain of such exchanges. -/

theorem getAll_nil_of_no_name (r : AReq) (key : String) (h : ∀ x ∈ r.headers, x.name ≠ key) : r.getAll key = [] := by
  unfold AReq.getAll
  rw [List.map_eq_nil_iff, List.filter_eq_nil_iff]
  intro x hx
  simp [h x hx]

/-- `followRes_flow` when the status is known: the status the method table was asked about is that one -/
theorem followRes_flow_some {req : AReq} {location : Option Bytes} {status : Nat} {sameHost : Bool} {nf : Flow}
    (h : followRes req location (some status) sameHost = .flow nf) :
    ∃ uri nm, newMethodOf req.method status = some nm ∧ nf = followFlow req nm uri sameHost := by
  obtain ⟨_, _, st, uri, nm, R, hnm, hnf⟩ := followRes_flow h
  obtain rfl : status = st := Option.some.inj R.status
  exact ⟨uri, nm, hnm, hnf⟩

/-- **C13 on the wire.** The analysed request of the flow a redirect produces — the one `C02_render` puts on
    the wire line by line — has no `Cookie` and no `Content-Length` field, and an `Authorization` field only
    under the same-host policy towards the same host over the same or a secure scheme: analysis adds nothing
    but `Host` to it. -/
theorem C13_wire (prev : AReq) (m nm : Method) (s : Nat) (uri : Uri) (sameHost : Bool)
    (hm : newMethodOf m s = some nm)
    (hok : (followFlow prev nm uri sameHost).call.analyzeRequest.2 = .ok ()) :
    (followFlow prev nm uri sameHost).call.analyzeRequest.1.req.getAll "cookie" = [] ∧
    (followFlow prev nm uri sameHost).call.analyzeRequest.1.req.getAll "content-length" = [] ∧
    ((followFlow prev nm uri sameHost).call.analyzeRequest.1.req.getAll "authorization" ≠ [] →
      sameHost = true ∧ prev.uri.host = uri.host ∧ (prev.uri.scheme = uri.scheme ∨ uri.scheme = "https")) := by
  have hna : (followFlow prev nm uri sameHost).call.analyzed = false := rfl
  have hwn := (C01_follow_setup prev m nm s uri sameHost hm hok).hwr
  -- the analysed request agrees with the flow's request on every name but `host`: no framing header is derived
  have key : ∀ k : String, ("host" == k) = false →
      (followFlow prev nm uri sameHost).call.analyzeRequest.1.req.getAll k = (followFlow prev nm uri sameHost).call.req.getAll k := by
    intro k hk
    obtain ⟨info, _, hc'⟩ := analyzeRequest_ok_inv hna hok
    rw [hc'] at hwn ⊢
    refine getAll_analyzed_of_ne _ hk (fun h _ hb => ?_)
    rw [show info.bodyMode = BodyWriter.newNone from hwn] at hb
    cases hb
  have c13 := C13 prev nm uri sameHost
  refine ⟨?_, ?_, ?_⟩
  · rw [key "cookie" (by decide)]
    exact getAll_nil_of_no_name _ _ (fun x hx => (c13 x hx).1)
  · rw [key "content-length" (by decide)]
    exact getAll_nil_of_no_name _ _ (fun x hx => (c13 x hx).2.1)
  · rw [key "authorization" (by decide)]
    intro hne
    apply Decidable.byContradiction
    intro hno
    exact hne (getAll_nil_of_no_name _ _ (fun x hx e => hno ((c13 x hx).2.2 e)))

/-- **C13 across an exchange.** In the setting of `C01_chain2` — an exchange answered by a redirect, run under
    any complete schedule, then `as_new_flow`, then the exchange of the flow it returned under any complete
    schedule — the second request as it appears on the wire is `renderHead r₂` and nothing else, and `r₂` has
    no `Cookie`, no `Content-Length`, and `Authorization` only under the same-host policy towards the original
    host over the same or a secure scheme. -/
theorem C13_exchange (hack : Bool)
    (f₁ : Flow) (r₁ : AReq) (w₁ : BodyWriter) (P₁ : Bytes) (I₁ H₁ : Head) (b₁ : BPos) (pre₁ tail₁ : Bytes)
    (X₁ : XSetup hack f₁ r₁ w₁ P₁ I₁ H₁ b₁ pre₁) (ht₁ : b₁.isClose = true → tail₁ = [])
    (sameHost : Bool) (f₂ : Flow) (hnext : followRes r₁ (lastLocation H₁.parsed.fields) (some H₁.codeVal) sameHost = .flow f₂)
    (r₂ : AReq) (w₂ : BodyWriter) (P₂ : Bytes) (I₂ H₂ : Head) (b₂ : BPos) (pre₂ tail₂ : Bytes)
    (X₂ : XSetup hack f₂ r₂ w₂ P₂ I₂ H₂ b₂ pre₂) (ht₂ : b₂.isClose = true → tail₂ = [])
    (σ₁ σ₂ : List IoStep) (hσ₁ : ∀ s ∈ σ₁, H₁.safeWin hack s.m) (hσ₂ : ∀ s ∈ σ₂, H₂.safeWin hack s.m)
    (hd₁ : recvDone (xRun hack P₁ (pre₁ ++ (H₁.enc ++ b₁.enc ++ tail₁)) f₁ σ₁).1 = true)
    (hd₂ : recvDone (xRun hack P₂ (pre₂ ++ (H₂.enc ++ b₂.enc ++ tail₂)) f₂ σ₂).1 = true) :
    ((xRun hack P₁ (pre₁ ++ (H₁.enc ++ b₁.enc ++ tail₁)) f₁ σ₁).1.asNewFlow sameHost).2 = .flow f₂ ∧
    (xRun hack P₂ (pre₂ ++ (H₂.enc ++ b₂.enc ++ tail₂)) f₂ σ₂).2.1.wire = renderHead r₂ ∧
    r₂.getAll "cookie" = [] ∧ r₂.getAll "content-length" = [] ∧
    ∃ uri, f₂.call.req.uriOverride = some uri ∧
      (r₂.getAll "authorization" ≠ [] →
        sameHost = true ∧ r₁.uri.host = uri.host ∧ (r₁.uri.scheme = uri.scheme ∨ uri.scheme = "https")) := by
  have hflow := (X₁.next ht₁ hσ₁ hd₁ sameHost).trans hnext
  have hspec := ((X₂.run_inv ht₂ hσ₂).outcome X₂.send.hst hd₂).1
  obtain ⟨uri, nm, hnm, rfl⟩ := followRes_flow_some hnext
  have hwire := C13_wire r₁ r₁.method nm H₁.codeVal uri sameHost hnm X₂.send.han
  rw [X₂.send.hreq] at hwire
  -- the redirected request has no body: the wire is the rendered head alone
  have hw₂ : w₂ = BodyWriter.newNone := X₂.send.hwr.symm.trans
    (C01_follow_setup r₁ r₁.method nm H₁.codeVal uri sameHost hnm X₂.send.han).hwr
  refine ⟨hflow, ?_, hwire.1, hwire.2.1, uri, by simp [followFlow], hwire.2.2⟩
  unfold SendSpec at hspec
  rw [hw₂] at hspec
  exact hspec

/-- **C14 / C15 across an exchange.** After an exchange run under any complete schedule: if `as_new_flow`
    returns a flow, its URI is the RFC 3986 resolution of the last `Location` field of the response head the
    server sent, against the effective URI of the request that was on the wire, and its method is the method
    table's entry for that request's method and the response's status; if it returns nothing, the table says
    "do not follow". -/
theorem C14_C15_exchange (hack : Bool) (f0 : Flow) (r : AReq) (wr0 : BodyWriter) (P : Bytes) (I H : Head) (b0 : BPos)
    (tail pre : Bytes) (X : XSetup hack f0 r wr0 P I H b0 pre) (htail : b0.isClose = true → tail = []) (σ : List IoStep)
    (hσ : ∀ s ∈ σ, H.safeWin hack s.m) (hd : recvDone (xRun hack P (pre ++ (H.enc ++ b0.enc ++ tail)) f0 σ).1 = true)
    (sameHost : Bool) :
    (∀ nf, ((xRun hack P (pre ++ (H.enc ++ b0.enc ++ tail)) f0 σ).1.asNewFlow sameHost).2 = .flow nf →
      (∃ locB loc, lastLocation H.parsed.fields = some locB ∧ toStr? locB = some loc ∧
        resolve r.effUri (String.ofList (loc.map fun b => Char.ofNat b.toNat)) = .ok nf.call.req.effUri) ∧
      tableSpec r.method H.codeVal = some nf.call.req.method) ∧
    (((xRun hack P (pre ++ (H.enc ++ b0.enc ++ tail)) f0 σ).1.asNewFlow sameHost).2 = .none →
      tableSpec r.method H.codeVal = none) := by
  obtain ⟨h1, h2, h3, _⟩ := X.done_frame htail hσ hd
  have c15 := C15_follow (xRun hack P (pre ++ (H.enc ++ b0.enc ++ tail)) f0 σ).1 sameHost H.codeVal h3
  rw [h1] at c15
  refine ⟨fun nf hnf => ⟨?_, c15.1 nf hnf⟩, c15.2⟩
  have c14 := C14_current (xRun hack P (pre ++ (H.enc ++ b0.enc ++ tail)) f0 σ).1 sameHost nf hnf
  rw [h1, h2] at c14
  exact c14

theorem followRes_flow_method (req : AReq) (location : Option Bytes) (status : Nat) (sameHost : Bool) (g : Flow)
    (h : followRes req location (some status) sameHost = .flow g) :
    newMethodOf req.method status = some g.call.req.method := by
  obtain ⟨_, nm, hnm, rfl⟩ := followRes_flow_some h
  exact hnm

def ChainMethods : Method → List Hop → Prop
  | _, [] => True
  | m, h :: rest => h.r.method = m ∧ (rest = [] ∨ ∃ m', newMethodOf m h.H.codeVal = some m' ∧ ChainMethods m' rest)

/-- **C15 (along a real chain).** In every chain of covered exchanges — any number of hops, any schedules —
    the method of each hop's request on the wire is the table's entry for the previous hop's method and the
    status the previous hop was answered with; the first hop's is the caller's. -/
theorem C15_chain_flows (hack : Bool) (hops : List Hop) : ∀ (f : Flow), ChainOK hack f hops →
    ChainMethods f.call.req.method hops := by
  induction hops with
  | nil => intro f _; trivial
  | cons h rest ih =>
    intro f hok
    obtain ⟨X, _, _, _, hnext⟩ := hok
    have hm : h.r.method = f.call.req.method := by
      rw [← X.send.hreq]; exact analyzeRequest_method f.call
    refine ⟨hm, ?_⟩
    rcases hnext with rfl | ⟨g, hg, hrest⟩
    · exact Or.inl rfl
    · refine Or.inr ⟨g.call.req.method, ?_, ih g hrest⟩
      rw [← hm]; exact followRes_flow_method _ _ _ _ _ hg

theorem ChainMethods_orig_or_get (hops : List Hop) : ∀ (m : Method), ChainMethods m hops →
    ∀ hp ∈ hops, hp.r.method = m ∨ hp.r.method = .get := by
  induction hops with
  | nil => intro m _ hp hin; cases hin
  | cons h rest ih =>
    intro m hc hp hin
    obtain ⟨hm, hnext⟩ := hc
    rcases List.mem_cons.mp hin with rfl | hin
    · exact Or.inl hm
    · rcases hnext with rfl | ⟨m', hm', hrest⟩
      · cases hin
      · rcases ih m' hrest hp hin with e | e
        · rcases newMethodOf_orig_or_get m m' _ hm' with e' | e'
          · exact Or.inl (e.trans e')
          · exact Or.inr (e.trans e')
        · exact Or.inr e

/-- **C15 (along a real chain: the caller's method or GET).** Whatever the servers answer and however the
    I/O is sliced, every request of a redirect chain carries the caller's own method or GET. -/
theorem C15_chain_flows_methods (hack : Bool) (hops : List Hop) (f : Flow) (hok : ChainOK hack f hops) :
    ∀ hp ∈ hops, hp.r.method = f.call.req.method ∨ hp.r.method = .get :=
  ChainMethods_orig_or_get hops _ (C15_chain_flows hack hops f hok)

/-- **C15 (along a real chain: never replayed).** If the caller's request is a POST, PUT, PATCH or DELETE, every
    request after the first hop of the chain is a GET. -/
theorem C15_chain_flows_no_replay (hack : Bool) (h : Hop) (rest : List Hop) (f : Flow) (hok : ChainOK hack f (h :: rest))
    (hm : f.call.req.method.needBody = true ∨ f.call.req.method = .delete) :
    ∀ hp ∈ rest, hp.r.method = .get := by
  obtain ⟨_, hnext⟩ := C15_chain_flows hack (h :: rest) f hok
  rcases hnext with rfl | ⟨m', hm', hrest⟩
  · intro hp hin; cases hin
  · have : m' = .get := C15_chain_unsafe_to_get f.call.req.method m' h.H.codeVal [] hm (by simp [chainMethod, hm'])
    subst this
    exact fun hp hin => (ChainMethods_orig_or_get rest .get hrest hp hin).elim id id

/-! non-vacuity (evaluated): `GET http://a/` with `Cookie` and `Authorization`, answered `302 Location: /n`; the
    request of the next hop under a tiny-buffer schedule: no Cookie; Authorization only under same-host -/
def xNewCred : Flow := Flow.new .get .h11 d10Call.req.uri
  [{ name := "cookie", value := "c=1".toUTF8.toList }, { name := "authorization", value := "s".toUTF8.toList }]
def xHopCred (sh : Bool) : Hop := { xHop1 with r := xNewCred.call.analyzeRequest.1.req, sameHost := sh }
def secondWire (sh : Bool) : Bytes :=
  match ((xRun true [] (xHopCred sh).stream xNewCred xSafe302).1.asNewFlow sh).2 with
  | .flow g => (xRun true [] xStream g xTiny).2.1.wire
  | _ => []
#guard (xRun true [] (xHopCred false).stream xNewCred xSafe302).2.1.wire ==
  "GET / HTTP/1.1\r\nhost: a\r\ncookie: c=1\r\nauthorization: s\r\n\r\n".toUTF8.toList
#guard secondWire false == "GET /n HTTP/1.1\r\nhost: a\r\n\r\n".toUTF8.toList
#guard secondWire true == "GET /n HTTP/1.1\r\nhost: a\r\nauthorization: s\r\n\r\n".toUTF8.toList
