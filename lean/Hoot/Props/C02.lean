import Hoot.Proofs.HeadWrite

/-! # C02 — request head on the wire is well-formed and faithful to the request

`writePrelude` is call.rs `try_write_prelude` (both `Call::write`s use it, `Flow<SendRequest>::write`
delegates to them). `headUnits r` are the units it emits atomically: the request line, one unit per
effective header, the blank line glued to the last header; `renderHead r` is the head the property
describes. `r` is the request after analysis (Host / framing header added — `analyzeRequest_spec`). -/

/-- **C02 (one call).** For every phase and every buffer size a call emits the maximal run of whole
    lines that fits, starting at the current position, and advances by the lines taken; it fails with
    `OutputOverflow` — emitting nothing, changing nothing — exactly when the head is incomplete and
    not even the next line fits. -/
theorem C02_step (c : CallSt) (cap : Nat) (hh : c.req.headers ≠ []) (hv : validPhase c.req.headers.length c.phase) :
    (writePrelude c { out := [], cap := cap }).2.1.out = (greedy ((headUnits c.req).drop (headPos c)) cap).flatten ∧
    headPos (writePrelude c { out := [], cap := cap }).1 = headPos c + (greedy ((headUnits c.req).drop (headPos c)) cap).length ∧
    validPhase c.req.headers.length (writePrelude c { out := [], cap := cap }).1.phase ∧
    (writePrelude c { out := [], cap := cap }).1.req = c.req ∧
    ((writePrelude c { out := [], cap := cap }).2.2 =
      if greedy ((headUnits c.req).drop (headPos c)) cap = [] ∧ headPos c ≤ c.req.headers.length
      then .error (.api .outputOverflow) else .ok ()) ∧
    (greedy ((headUnits c.req).drop (headPos c)) cap = [] → (writePrelude c { out := [], cap := cap }).1 = c) := by
  rw [writePrelude_eq c cap hh hv]
  refine ⟨rfl, phasePos_phaseAt _ _, validPhase_phaseAt (headPos_add_greedy_le hv cap), rfl, rfl, fun hg => ?_⟩
  rw [hg, List.length_nil, Nat.add_zero, headPos, phaseAt_phasePos hv]

theorem take_flatten_step (l : List Bytes) (p : Nat) (s : Nat) :
    ((l.take p).flatten ++ (greedy (l.drop p) s).flatten) = (l.take (p + (greedy (l.drop p) s).length)).flatten := by
  rw [List.take_add, List.flatten_append, ← greedy_take]

/-- **C02 (any schedule).** Over any sequence of output buffer sizes the bytes emitted so far are exactly
    the first `k` whole units of the head, where `k` is the position the writer has reached; so once the
    head is complete (`k` = all units) the concatenation is exactly `renderHead`, and nothing more is
    ever emitted. -/
theorem C02_schedule (caps : List Nat) : ∀ (c : CallSt), c.req.headers ≠ [] → validPhase c.req.headers.length c.phase →
    ((headUnits c.req).take (headPos c)).flatten ++ (runHead c caps).2 =
      ((headUnits c.req).take (headPos (runHead c caps).1)).flatten ∧
    (runHead c caps).1.req = c.req ∧ validPhase c.req.headers.length (runHead c caps).1.phase ∧
    headPos c ≤ headPos (runHead c caps).1 := by
  induction caps with
  | nil =>
    intro c _ hv
    exact ⟨List.append_nil _, rfl, hv, Nat.le_refl _⟩
  | cons cap caps ih =>
    intro c hh hv
    obtain ⟨hout, hpos, hvalid, hreq, _, _⟩ := C02_step c cap hh hv
    obtain ⟨gout, greq, gvalid, gle⟩ := ih (writePrelude c { out := [], cap := cap }).1 (by rwa [hreq]) (by rwa [hreq])
    simp only [runHead]
    rw [hreq] at gout greq gvalid
    refine ⟨?_, greq, gvalid, by omega⟩
    rw [← List.append_assoc, hout, take_flatten_step, ← hpos]
    exact gout

/-- **C02 (complete head).** When the writer has reached the end, what was emitted since the start is
    exactly the rendered head: request line, every effective header on its own line, one empty line. -/
theorem C02_render (caps : List Nat) (c : CallSt) (hh : c.req.headers ≠ []) (hp : c.phase = .sendLine)
    (hdone : (runHead c caps).1.phase = .sendBody) : (runHead c caps).2 = renderHead c.req := by
  obtain ⟨gout, greq, _, _⟩ := C02_schedule caps c hh (by rw [hp]; trivial)
  rw [headPos_sendLine hp, headPos_sendBody hdone, greq, List.take_length, headUnits_flatten c.req hh] at gout
  simpa using gout

/-- **C02 (after completion).** Once the head is complete every further call emits nothing and succeeds. -/
theorem C02_after (c : CallSt) (cap : Nat) (hp : c.phase = .sendBody) :
    writePrelude c { out := [], cap := cap } = (c, { out := [], cap := cap }, .ok ()) := wp_body c cap hp

/-- `validPhase` is met: the two prelude phases of a request with two headers -/
example : validPhase 2 .sendLine ∧ validPhase 2 (.sendHeaders 1) := by simp [validPhase]
