import Hoot.Model.Uri
import Hoot.Proofs.FlowSpecs
import Hoot.Props.C09

/-! # C15 — redirect method rewriting follows the documented table

`tableSpec` (Spec/Flow.lean) is the table; its comparison with `newMethodOf`, `C15_table`, is proved in
Proofs/FlowSpecs.lean. -/

/-- **C15 (table).** For every method and every status (any natural number): 307/308 keep the method and
    are not followed for POST, PUT, PATCH, DELETE; every other status keeps HEAD and GET and turns
    everything else into GET. -/
theorem C15 (m : Method) (status : Nat) : newMethodOf m status = tableSpec m status := C15_table m status

/-- **C15 (as_new_flow uses the table).** Whenever `as_new_flow` returns a flow, its method is the table's
    entry for (method of the request just made, status of the response); when the table says "do not
    follow" it returns nothing (unless the Location itself is missing or bad, which is reported first). -/
theorem C15_follow (f : Flow) (sameHost : Bool) (status : Nat) (hst : f.status = some status) :
    (∀ nf, (f.asNewFlow sameHost).2 = .flow nf → tableSpec f.call.req.method status = some nf.call.req.method) ∧
    ((f.asNewFlow sameHost).2 = .none → tableSpec f.call.req.method status = none) := by
  rw [← C15_table]
  constructor
  · intro nf h
    obtain ⟨_, _, st, uri, nm, R, hnm, rfl⟩ := asNewFlow_flow h
    cases hst.symm.trans R.status
    exact hnm
  · intro h
    obtain ⟨_, _, st, _, R, hnm⟩ := followRes_none ((asNewFlow_res f sameHost).symm.trans h)
    cases hst.symm.trans R.status
    exact hnm

/-- **C15 (entering the redirect state).** After the head (no body expected) or after the body, the flow
    enters the redirect state exactly for 3xx other than 304, else cleanup. -/
theorem C15_enter (hack : Bool) (f : Flow) (s : FState) (status : Nat) (hst : f.status = some status)
    (hs : f.st = .recvBody ∨ (f.st = .recvResponse ∧ needResponseBody f.call.reader = false))
    (h : (f.step hack .proceed).2 = .state s) :
    s = (if 300 ≤ status ∧ status ≤ 399 ∧ status ≠ 304 then .redirect else .cleanup) := by
  rw [C09_edges hack f s h]
  unfold graphSpec
  rcases hs with hs | ⟨hs, hn⟩
  · simp only [hs, hst, isRedirectStatus_iff, Option.getD_some]
  · simp only [hs, hn, hst, Bool.false_eq_true, if_false, isRedirectStatus_iff, Option.getD_some]

/-- **C15 (status).** The redirect state reports the status of the response that led to it. -/
theorem C15_status (f : Flow) (status : Nat) (hst : f.status = some status) :
    (stepRedirect f .statusQ).2 = .count status := by
  simp [stepRedirect, hst]

example : tableSpec .post 307 = none ∧ tableSpec .post 302 = some .get ∧ tableSpec .head 301 = some .head := by
  simp [tableSpec]

/-- the method of the request after a chain of followed redirects with the given statuses
    (`none`: some hop is not followed) — the table applied hop after hop -/
def chainMethod : Method → List Nat → Option Method
  | m, [] => some m
  | m, s :: ss => match newMethodOf m s with
    | none => none
    | some m' => chainMethod m' ss

theorem newMethodOf_orig_or_get (m m' : Method) (s : Nat) (h : newMethodOf m s = some m') : m' = m ∨ m' = .get := by
  unfold newMethodOf at h
  repeat' split at h
  all_goals simp_all

theorem newMethodOf_get (s : Nat) : newMethodOf .get s = some .get := by
  unfold newMethodOf; split <;> simp [Method.needBody]

/-- **C15 (chains: GET absorbs).** Once a request is a GET it stays a GET over every further chain of
    redirects, whatever the statuses, and every hop is followed. -/
theorem C15_chain_get (ss : List Nat) : chainMethod .get ss = some .get := by
  induction ss with
  | nil => rfl
  | cons s ss ih => simp only [chainMethod, newMethodOf_get]; exact ih

/-- **C15 (chains: original or GET).** Over any chain of redirects of any length and any statuses the
    method on the wire is the caller's own method or GET — the table never invents a third method. -/
theorem C15_chain_orig_or_get (ss : List Nat) : ∀ (m m' : Method), chainMethod m ss = some m' → m' = m ∨ m' = .get := by
  induction ss with
  | nil => intro m m' h; simp [chainMethod] at h; exact Or.inl h.symm
  | cons s ss ih =>
    intro m m' h
    simp only [chainMethod] at h
    split at h
    · simp at h
    · rename_i m1 h1
      rcases newMethodOf_orig_or_get m m1 s h1 with e | e
      · subst e; exact ih _ _ h
      · subst e; rw [C15_chain_get] at h; simp at h; exact Or.inr h.symm

/-- **C15 (chains: a body method is never replayed).** A request whose method carries a body (POST, PUT,
    PATCH) — or a DELETE — that is followed through at least one redirect continues as GET, for every
    chain of statuses: no redirect ever makes the client re-issue such a method. -/
theorem C15_chain_unsafe_to_get (m m' : Method) (s : Nat) (ss : List Nat)
    (hm : m.needBody = true ∨ m = .delete) (h : chainMethod m (s :: ss) = some m') : m' = .get := by
  simp only [chainMethod] at h
  split at h
  · simp at h
  · rename_i m1 h1
    have : m1 = .get := by
      cases m <;> simp [Method.needBody] at hm <;>
        (unfold newMethodOf at h1; simp [Method.needBody] at h1; (try split at h1) <;> simp_all)
    subst this; rw [C15_chain_get] at h; simp at h; exact h.symm

/-- non-vacuity: a POST redirected 302 then 307 then 301 ends as GET; a POST at 307 is not followed -/
example : chainMethod .post [302, 307, 301] = some .get := by decide
example : chainMethod .post [307] = none := by decide
example : chainMethod .options [307, 308] = some .options := by decide
