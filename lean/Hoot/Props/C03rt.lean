import Hoot.Props.C03
import Hoot.Props.C07

/-! C03 round trip: what the chunked body writer emits is a well-formed coding in the sense of the
    grammar the dechunker is proved against (`V2.Rem`), with payload exactly the chunk data. -/

open V2

theorem hexDigitB_spec : ∀ d, d < 16 → isHexB (hexDigitB d) = true ∧ hexValN (hexDigitB d).toNat = d := by
  decide

theorem toHexB_spec (n : Nat) : (∀ b ∈ toHexB n, isHexB b = true) ∧ hexValue (toHexB n) = n := by
  induction n using toHexB.induct with
  | case1 n h =>
    rw [toHexB]
    simp [h, hexValue, hexDigitB_spec n h]
  | case2 n h ih =>
    rw [toHexB]
    have hd := hexDigitB_spec (n % 16) (by omega)
    simp only [h, dif_neg, not_false_eq_true, List.mem_append, List.mem_singleton]
    constructor
    · rintro b (hb | rfl)
      · exact ih.1 b hb
      · exact hd.1
    · simp only [hexValue, List.foldl_append, List.foldl_cons, List.foldl_nil] at ih ⊢
      rw [ih.2, hd.2]
      omega

theorem toHexB_ne_nil (n : Nat) : toHexB n ≠ [] :=
  List.ne_nil_of_length_pos (toHexB_length n ▸ hexLen_pos n)

/-- the size line the writer produces for a chunk of `n` bytes -/
def wLine (n : Nat) : SizeLine := { digits := toHexB n, ext := [], val := n }

theorem wLine_wf (n : Nat) (h : n ≤ USIZE_MAX) : (wLine n).wf := by
  obtain ⟨hdig, hval⟩ := toHexB_spec n
  refine ⟨toHexB_ne_nil n, ?_, fun x hx => isHexB_ne (hdig x hx), Or.inl rfl, by simp [wLine], ?_⟩
  · have := parseSizeField_hex (toHexB n) (toHexB_ne_nil n) hdig (by rw [hval]; exact h)
    rwa [hval] at this
  · simp only [wLine, List.length_nil, Nat.add_zero]
    rw [toHexB_length]
    have : n < 16 ^ (15 + 1) := by unfold USIZE_MAX at h; omega
    have := hexLen_le 15 n this
    omega

def wChunk (c : Bytes) : Chunk := { line := wLine c.length, data := c }

theorem wChunk_enc (c : Bytes) : (wChunk c).enc = frame c := by
  simp [wChunk, Chunk.enc, SizeLine.enc, wLine, frame, crlf, CR, LF]

theorem wChunk_wf (c : Bytes) (hne : c ≠ []) (h : c.length ≤ USIZE_MAX) : (wChunk c).wf :=
  ⟨wLine_wf c.length h, rfl, List.length_pos_iff.mpr hne⟩

/-- **C03 (round trip).** A finished chunked body as the writer emits it (`wireOf cs true`: complete
    non-empty chunks, one terminator) is a well-formed coding of the dechunker's grammar, positioned at
    its start, whose payload is exactly the chunk data — so by `C07` every arrival / buffer schedule of
    this crate's own decoder reads back exactly the consumed input and stops exactly at its end. -/
theorem C03_roundtrip (cs : List Bytes) (hne : ∀ x ∈ cs, x ≠ []) (hlen : ∀ x ∈ cs, x.length ≤ USIZE_MAX) :
    ∃ r : Rem, r.wf ∧ r.atRest ∧ r.state = .size ∧ r.enc = wireOf cs true ∧ r.payload = cs.flatten := by
  refine ⟨.atSize (cs.map wChunk) (wLine 0) [], ?_, trivial, rfl, ?_, ?_⟩
  · refine ⟨?_, wLine_wf 0 (by unfold USIZE_MAX; omega), rfl, by simp⟩
    intro c hc
    obtain ⟨x, hx, rfl⟩ := List.mem_map.mp hc
    exact wChunk_wf x (hne x hx) (hlen x hx)
  · simp only [Rem.enc, encTail, encChunks, wireOf, if_true, List.map_map]
    congr 1
    · congr 1
      apply List.map_congr_left
      intro c _
      exact wChunk_enc c
    · simp [SizeLine.enc, wLine, encTrailers, termBytes, CR, LF, toHexB, hexDigitB]
  · simp only [Rem.payload, payloadOf, List.map_map]
    congr 1
    simp [Function.comp_def, wChunk]

/-- **C03 (decodes back).** For every finished chunked body the writer can emit and every schedule of
    reads (window sizes, output sizes, boundary stop on or off) of the crate's dechunker: no error, the
    output is a prefix of the consumed input, and the decoder reports the end exactly when it has consumed
    the whole coding — at which point it has returned exactly the consumed input and left the following
    bytes untouched. -/
theorem C03_decodes (cs : List Bytes) (hne : ∀ x ∈ cs, x ≠ []) (hlen : ∀ x ∈ cs, x.length ≤ USIZE_MAX)
    (σ : List ReadStep) (tail : Bytes) :
    ∃ (r' : Rem) (used : Nat) (out : Bytes),
      runReads .size (wireOf cs true ++ tail) σ = some (r'.state, used, out) ∧
      used ≤ (wireOf cs true).length ∧ cs.flatten = out ++ r'.payload ∧
      (r'.state = .ended ↔ used = (wireOf cs true).length) ∧
      (r'.state = .ended → out = cs.flatten ∧ (wireOf cs true ++ tail).drop used = tail) := by
  obtain ⟨r, hwf, hrest, hst, henc, hpay⟩ := C03_roundtrip cs hne hlen
  obtain ⟨r', used, out, h1, h2, h3, h4, h5⟩ := C07 σ r hwf hrest tail
  rw [hst, henc] at h1
  rw [henc] at h2 h4 h5
  rw [hpay] at h3 h5
  exact ⟨r', used, out, h1, h2, h3, h4, h5⟩
