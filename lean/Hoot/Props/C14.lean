import Hoot.Model.Uri
import Hoot.Props.C13

/-! # C14 — the redirect target resolves the last Location against the current URI (RFC 3986)

`resolve` (Model/Uri.lean) is RFC 3986 §5.2 (parse reference; merge; remove_dot_segments) with the
normalisations `url::Url` + `http::Uri` apply on the class of references described there (lower-case
scheme and host, default port dropped, empty path → "/", fragment dropped); references outside that class
answer `outOfClass` and are not modelled. That `url::Url::join` agrees with it is checked by the
correspondence (all 42 examples of RFC 3986 §5.4, a base × reference grid, random chains) — the `url`
crate is modelled, not verified. -/

/-- **C14 (last Location).** The value remembered from a response is that of its LAST `location` field. -/
theorem C14_last (fields : List Hdr) (a : Hdr) (rest : List Hdr)
    (hlast : (fields.filter (·.name == "location")) = rest ++ [a]) : lastLocation fields = some a.value := by
  simp [lastLocation, hlast]

theorem followFlow_effUri (prev : AReq) (nm : Method) (uri : Uri) (sameHost : Bool) :
    (followFlow prev nm uri sameHost).call.req.effUri = uri := rfl

/-- **C14 (resolution against the current URI).** When `as_new_flow` returns a flow, the new flow's URI is
    the resolution of the remembered Location against the URI of the request just made — the effective
    one (`effUri`: the override installed by the previous hop if any), not the original. -/
theorem C14_current (f : Flow) (sameHost : Bool) (nf : Flow) (h : (f.asNewFlow sameHost).2 = .flow nf) :
    ∃ locB loc, f.location = some locB ∧ toStr? locB = some loc ∧
      resolve f.call.req.effUri (String.ofList (loc.map fun b => Char.ofNat b.toNat)) = .ok nf.call.req.effUri := by
  obtain ⟨locB, loc, _, uri, nm, R, _, rfl⟩ := asNewFlow_flow h
  rw [followFlow_effUri]
  exact ⟨locB, loc, R.loc, R.txt, R.res⟩

/-- **C14 (errors, never a panic).** A missing Location is `NoLocationHeader`, a non-textual or unresolvable
    one `BadLocationHeader`; on a flow that received a response and has not been followed yet
    `as_new_flow` has no panic outcome. -/
theorem C14_errors (f : Flow) (sameHost : Bool) (hst : f.status.isSome = true) (hnt : f.call.req.taken = false) :
    (f.location = none → (f.asNewFlow sameHost).2 = .fault (.api .noLocationHeader)) ∧
    (∀ l, f.location = some l → toStr? l = none → (f.asNewFlow sameHost).2 = .fault (.api .badLocationHeader)) ∧
    (∀ s, (f.asNewFlow sameHost).2 ≠ .fault (.panic s)) := by
  rw [asNewFlow_res]
  refine ⟨?_, ?_, followRes_noPanic hst hnt⟩
  · intro h
    rw [h]
    rfl
  · intro l h1 h2
    simp only [followRes, h1, h2]

/-- **C14 (wire).** The request line of the next request carries the path-and-query of the effective URI;
    when analysis has to add a Host header it is the effective URI's host. -/
theorem C14_wire_line (r : AReq) :
    requestLine r = strBytes r.method.text ++ (32 :: (strBytes r.effUri.pathAndQuery ++ (32 :: (strBytes r.version.text ++ crlf)))) := rfl

-- RFC 3986 section 5.4.1, base http://a/b/c/d;p?q (evaluated: a test, not a proof)
#guard (match resolve { scheme := "http", host := "a", port := none, path := "/b/c/d;p", query := some "q" } "../g" with | .ok u => u.text == "http://a/b/g" | _ => false)
#guard (match resolve { scheme := "http", host := "a", port := none, path := "/b/c/d;p", query := some "q" } "g;x?y#s" with | .ok u => u.text == "http://a/b/c/g;x?y" | _ => false)

/-- **C14 (an inherited Host header stays on its host; defect D13, repaired).** Among the effective headers of
    the request created for a redirect, a `host` header is one the original request carried only if the target
    is on the host of the original request URI — otherwise it is suppressed like the credentials of C13, no
    effective Host header is left, and request analysis derives the header from the new URI
    (`hostStep`: `host: <effective URI's host>`, with `followFlow_effUri`). (On the pinned tree a Host header
    set on the original request travelled with the request to every host it was redirected to.) -/
theorem C14_host_inherited (prev : AReq) (nm : Method) (uri : Uri) (sameHost : Bool) (h : Hdr)
    (hin : h ∈ (followFlow prev nm uri sameHost).call.req.headers) (hn : h.name = "host") :
    prev.uri.host = uri.host := by
  have hu := (mem_followFlow_headers.mp hin).2
  rw [mem_unsetList] at hu
  cases hk : keepHostHeader prev.uri uri
  · exact absurd (.inr (.inl ⟨hn, hk⟩)) hu
  · simpa [keepHostHeader] using hk

/-- no `host` among the effective headers of the redirected request when the target left the original host -/
theorem C14_host_suppressed (prev : AReq) (nm : Method) (uri : Uri) (sameHost : Bool)
    (hne : prev.uri.host ≠ uri.host) :
    ∀ h ∈ (followFlow prev nm uri sameHost).call.req.headers, h.name ≠ "host" :=
  fun h hin hn => hne (C14_host_inherited prev nm uri sameHost h hin hn)

example : keepHostHeader { scheme := "http", host := "a", port := none, path := "/", query := none }
    { scheme := "http", host := "b", port := none, path := "/x", query := none } = false := by decide

theorem resolve_ok (base : Uri) (loc : String) (u : Uri) (h : resolve base loc = .ok u) :
    u.path.isEmpty = false ∧
    (∀ s, (parseRef loc).scheme = some s → u.scheme = s ∧ (s = "http" ∨ s = "https")) ∧
    ((parseRef loc).scheme = none → u.scheme = base.scheme) ∧
    ((parseRef loc).auth = none → u.host = base.host.toLower) := by
  unfold resolve at h
  by_cases h1 : (!loc.toList.all inClassChar) = true
  · rw [if_pos h1] at h
    cases h
  by_cases h2 : (loc.toLower.splitOn "%2e").length > 1
  · rw [if_neg h1, if_pos h2] at h
    cases h
  rw [if_neg h1, if_neg h2] at h
  -- `parseRef loc` is made opaque: `whnf` on a `match` over it unfolds the parser on a variable and times out
  generalize parseRef loc = r at h ⊢
  extract_lets _ mk bHost bPort at h
  -- every answer is made by `mk`, which never leaves the path empty
  have hmk : ∀ s h p path q, mk s h p path q = .ok u → u.path.isEmpty = false ∧ u.scheme = s ∧ u.host = h := by
    intro s h p path q e
    cases e
    refine ⟨?_, rfl, rfl⟩
    dsimp only
    split
    · decide
    · exact Bool.eq_false_iff.mpr ‹_›
  clear_value mk
  split at h
  · rename_i s a hs ha
    split at h
    · cases h
    rename_i hhttp
    split at h
    · cases h
    split at h
    · cases h
    split at h
    · cases h
    · obtain ⟨h1, h2, _⟩ := hmk _ _ _ _ _ h
      refine ⟨h1, fun s' e => ?_, fun e => ?_, fun e => ?_⟩
      · cases hs.symm.trans e
        refine ⟨h2, ?_⟩
        by_cases e : s = "http"
        · exact .inl e
        · exact .inr (by simpa [e] using hhttp)
      · cases hs.symm.trans e
      · cases ha.symm.trans e
  · cases h
  · rename_i a hs ha
    split at h
    · cases h
    split at h
    · cases h
    split at h
    · cases h
    · obtain ⟨h1, h2, _⟩ := hmk _ _ _ _ _ h
      exact ⟨h1, fun s' e => (nomatch hs.symm.trans e), fun _ => h2, fun e => (nomatch ha.symm.trans e)⟩
  · rename_i hs ha
    have key : ∀ path q, mk base.scheme bHost bPort path q = .ok u → u.path.isEmpty = false ∧
        (∀ s, r.scheme = some s → u.scheme = s ∧ (s = "http" ∨ s = "https")) ∧
        (r.scheme = none → u.scheme = base.scheme) ∧ (r.auth = none → u.host = base.host.toLower) :=
      fun path q e => ⟨(hmk _ _ _ _ _ e).1, fun s' e' => (nomatch hs.symm.trans e'), fun _ => (hmk _ _ _ _ _ e).2.1,
        fun _ => (hmk _ _ _ _ _ e).2.2⟩
    split at h
    · exact key _ _ h
    split at h
    · exact key _ _ h
    · exact key _ _ h

/-- **C14 (scheme of the target).** Whatever the Location says, the URI a redirect resolves to has the
    scheme of the current URI or one of `http` / `https` written in the Location itself: resolution never
    produces a third scheme. -/
theorem C14_resolve_scheme (base : Uri) (loc : String) (u : Uri) (h : resolve base loc = .ok u) :
    u.scheme = base.scheme ∨ u.scheme = "http" ∨ u.scheme = "https" := by
  obtain ⟨_, h1, h2, _⟩ := resolve_ok base loc u h
  cases hs : (parseRef loc).scheme with
  | none => exact .inl (h2 hs)
  | some s =>
    obtain ⟨e, hh⟩ := h1 s hs
    rw [e]
    exact .inr hh

/-- **C14 (a target always has a path).** The resolved URI never has an empty path: an empty one is `/`,
    so the request line written for the redirected request always has a target. -/
theorem C14_resolve_path (base : Uri) (loc : String) (u : Uri) (h : resolve base loc = .ok u)
    : u.path.isEmpty = false := (resolve_ok base loc u h).1

/-- **C14 (a relative Location stays on the host).** A Location without scheme and without authority
    (path-absolute, path-relative, query-only or empty) resolves to the scheme and the (lower-cased) host
    of the current URI — only a Location that names an authority can move the exchange to another host. -/
theorem C14_resolve_relative (base : Uri) (loc : String) (u : Uri) (h : resolve base loc = .ok u)
    (hs : (parseRef loc).scheme = none) (ha : (parseRef loc).auth = none) :
    u.scheme = base.scheme ∧ u.host = base.host.toLower :=
  ⟨(resolve_ok base loc u h).2.2.1 hs, (resolve_ok base loc u h).2.2.2 ha⟩

/-- test (compiler-evaluated, not a theorem): the hypotheses are met by an ordinary relative redirect -/
def c14Base : Uri := { scheme := "http", host := "a.test", port := none, path := "/x/y", query := none }
#guard (match resolve c14Base "../z?q" with | .ok u => u.scheme == "http" && u.host == "a.test" && u.path == "/z" | _ => false)
#guard (parseRef "../z?q").scheme == none && (parseRef "../z?q").auth == none
#guard (match resolve c14Base "https://b.test" with | .ok u => u.scheme == "https" && u.host == "b.test" && u.path == "/" | _ => false)
