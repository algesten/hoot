import Hoot.Props.C02
import Hoot.Proofs.FlowParts

/-! C02: exactly one Host, exactly the framing header the body uses — after request analysis.

The proofs below use Proofs/Analyze only. Props/C02 and Proofs/FlowParts are imported because the check of C02
audits all of the property's theorems (`C02_step` … `analyzeRequest_spec`) from this module. -/

/-- **C02 (exactly one Host).** After a successful first `analyze_request` the effective headers contain
    exactly one `host` field: the caller's if there was one (on the original request or added on the
    flow), otherwise the one derived from the effective URI. -/
theorem C02_host_once (c : CallSt) (hna : c.analyzed = false) (hok : c.analyzeRequest.2 = .ok ()) :
    (c.analyzeRequest.1.req.getAll "host").length = 1 := by
  obtain ⟨info, ha, hc⟩ := analyzeRequest_ok_inv hna hok
  obtain ⟨_, ok⟩ := analyze_ok ha
  rw [hc]
  dsimp only
  rw [getAll_withDerived_length, derivedHeaders_host_count, ok.reqHostHeader]
  cases hg : c.req.getAll "host" with
  | nil => rfl
  | cons x xs =>
    have h1 := ok.host_le_one
    rw [hg, List.length_cons] at h1
    simp only [List.head?_cons, Option.isSome_some, if_true, List.length_cons]
    omega

theorem chunkedValue_ok : (match toStr? (strBytes "chunked") with
    | some s => eqLowerAscii s (strBytes "chunked") | none => false) = true := by decide +kernel

/-- **C02 (exactly the framing header the body uses).** For a request on which the caller supplied at
    most one of `Content-Length` / `Transfer-Encoding: chunked`, after a successful first
    `analyze_request`: a chunked body ⇔ the head says `Transfer-Encoding: chunked` and has no
    `Content-Length`; a body of `n` bytes ⇔ exactly one `Content-Length` field, with value `n`, and no
    chunked; no body ⇔ neither. -/
theorem C02_framing (c : CallSt) (hna : c.analyzed = false) (hok : c.analyzeRequest.2 = .ok ())
    (hw : c.writer = BodyWriter.newChunked ∨ c.writer = BodyWriter.newNone)
    (hone : ¬ (c.req.hasChunked = true ∧ c.req.getAll "content-length" ≠ [])) :
    (c.analyzeRequest.1.writer.mode = .chunked →
       c.analyzeRequest.1.req.hasChunked = true ∧ c.analyzeRequest.1.req.getAll "content-length" = []) ∧
    (∀ n, c.analyzeRequest.1.writer.mode = .sized n →
       c.analyzeRequest.1.req.hasChunked = false ∧
       ∃ v, c.analyzeRequest.1.req.getAll "content-length" = [v] ∧ (toStr? v).bind parseU64 = some n) ∧
    (c.analyzeRequest.1.writer.mode = .none →
       c.analyzeRequest.1.req.hasChunked = false ∧ c.analyzeRequest.1.req.getAll "content-length" = []) := by
  obtain ⟨info, ha, hc⟩ := analyzeRequest_ok_inv hna hok
  obtain ⟨cl, ok⟩ := analyze_ok ha
  rw [hc]
  dsimp only
  -- where analysis derives no framing header, the framing fields are the caller's
  have keep : info.reqBodyHeader = true ∨ info.bodyMode.bodyHeader = none →
      (c.req.withDerived info).hasChunked = c.req.hasChunked ∧
      (c.req.withDerived info).getAll "content-length" =
        c.req.getAll "content-length" := by
    intro hno
    have hfr : ∀ (key : String) h, info.reqBodyHeader = false → info.bodyMode.bodyHeader = some h → (h.name == key) = false := by
      intro key h hf hb
      rcases hno with e | e
      · rw [e] at hf
        cases hf
      · rw [e] at hb
        cases hb
    constructor
    · unfold AReq.hasChunked
      rw [getAll_analyzed_of_ne c.req (by decide) (hfr _)]
    · exact getAll_analyzed_of_ne c.req (by decide) (hfr _)
  rcases contentLength_ok ok.contentLength with ⟨hcn, hcl0⟩ | ⟨n, v, rest, hcn, hclv, hpv⟩
  · cases hch : c.req.hasChunked with
    | true =>
      -- the caller's `Transfer-Encoding: chunked`
      have hmode : info.bodyMode = BodyWriter.newChunked := by rw [ok.bodyMode, hch]; rfl
      obtain ⟨k1, k2⟩ := keep (Or.inl (by rw [ok.reqBodyHeader, hch]; rfl))
      rw [hmode, k1, k2]
      exact ⟨fun _ => ⟨hch, hcl0⟩, nofun, nofun⟩
    | false =>
      have hmode : info.bodyMode = c.writer := by rw [ok.bodyMode, hch, hcn]; rfl
      have hrb' : info.reqBodyHeader = false := by rw [ok.reqBodyHeader, hch, hcn]; rfl
      rcases hw with hw | hw
      · -- the constructor's chunked body: analysis derives the header
        rw [hmode, hw]
        refine ⟨fun _ => ⟨?_, ?_⟩, nofun, nofun⟩
        · have hin : ({ name := "transfer-encoding", value := strBytes "chunked" } : Hdr) ∈ derivedHeaders c.req info :=
            mem_derivedHeaders.mpr (Or.inr ⟨hrb', by rw [hmode, hw]; rfl⟩)
          unfold AReq.hasChunked
          rw [List.any_eq_true]
          exact ⟨_, mem_getAll_withDerived hin, chunkedValue_ok⟩
        · rw [← hcl0]
          apply getAll_analyzed_of_ne c.req (by decide)
          intro h _ hb
          rw [hmode, hw] at hb
          cases hb
          decide
      · -- no body
        obtain ⟨k1, k2⟩ := keep (Or.inr (by rw [hmode, hw]; rfl))
        rw [hmode, hw, k1, k2]
        exact ⟨nofun, nofun, fun _ => ⟨hch, hcl0⟩⟩
  · -- the caller's `Content-Length: n`, the only one (so, by `hone`, not chunked)
    have hrest : rest = [] := by
      have h1 := ok.cl_le_one
      rw [hclv, List.length_cons] at h1
      exact List.eq_nil_of_length_eq_zero (by omega)
    subst hrest
    have hch : c.req.hasChunked = false := by
      cases hq : c.req.hasChunked with
      | false => rfl
      | true => exact absurd ⟨hq, by rw [hclv]; exact List.cons_ne_nil _ _⟩ hone
    have hmode : info.bodyMode = BodyWriter.newSized n := by rw [ok.bodyMode, hch, hcn]; rfl
    obtain ⟨k1, k2⟩ := keep (Or.inl (by rw [ok.reqBodyHeader, hch, hcn]; rfl))
    rw [hmode, k1, k2]
    refine ⟨nofun, fun m hm => ?_, nofun⟩
    cases hm
    exact ⟨hch, v, hclv, hpv⟩

/-- non-vacuity: a POST without framing headers — the library adds Host and `Transfer-Encoding: chunked` -/
def c02Call : CallSt :=
  { req := { method := .post, version := .h11, uri := { scheme := "http", host := "a", port := none, path := "/", query := none }, orig := [] },
    writer := BodyWriter.newChunked }
def okUnit : Except Fault Unit → Bool | .ok () => true | _ => false
theorem okUnit_eq (x : Except Fault Unit) (h : okUnit x = true) : x = .ok () := by
  unfold okUnit at h; split at h <;> simp_all
example : (c02Call.analyzeRequest.1.req.getAll "host").length = 1 :=
  C02_host_once c02Call rfl (okUnit_eq _ (by decide +kernel))
example : c02Call.analyzeRequest.1.req.hasChunked = true ∧ c02Call.analyzeRequest.1.req.getAll "content-length" = [] :=
  (C02_framing c02Call rfl (okUnit_eq _ (by decide +kernel)) (Or.inl rfl) (by decide +kernel)).1 (by decide +kernel)
