import Hoot.Props.C01

/-! C10 composed with C01: the recorded close reasons and the `must_close_connection` verdict at the end of a
    whole exchange, for every schedule (`Compose/ExchangeChain.lean`: `XFrame`, `x_run_frame`). -/

/-- **C10 over a whole exchange.** However the exchange was scheduled, once it is complete the reasons
    recorded on the flow are exactly: those the request started with (HTTP/1.0, `Connection: close` sent),
    `Connection: close` on the response, a close-delimited body — each present iff its condition holds, none
    twice, and nothing else (in particular no `not-100`: the interim response was a 100). -/
theorem C10_exchange (hack : Bool) (f0 : Flow) (r : AReq) (wr0 : BodyWriter) (P : Bytes) (I H : Head) (b0 : BPos)
    (tail pre : Bytes) (X : XSetup hack f0 r wr0 P I H b0 pre) (htail : b0.isClose = true → tail = []) (σ : List IoStep)
    (hσ : ∀ s ∈ σ, H.safeWin hack s.m) (hd : recvDone (xRun hack P (pre ++ (H.enc ++ b0.enc ++ tail)) f0 σ).1 = true) :
    ReasonsSpec f0 H b0 (xRun hack P (pre ++ (H.enc ++ b0.enc ++ tail)) f0 σ).1.closeReasons :=
  (X.done_frame htail hσ hd).2.2.2

/-- **C10 over a whole exchange: the verdict.** `must_close_connection()` after a complete exchange, in
    `Redirect` or `Cleanup`, under any schedule: true iff the request started with a reason, or the response
    said `Connection: close`, or the body was close-delimited. -/
theorem C10_exchange_verdict (hack : Bool) (f0 : Flow) (r : AReq) (wr0 : BodyWriter) (P : Bytes) (I H : Head) (b0 : BPos)
    (tail pre : Bytes) (X : XSetup hack f0 r wr0 P I H b0 pre) (htail : b0.isClose = true → tail = []) (σ : List IoStep)
    (hσ : ∀ s ∈ σ, H.safeWin hack s.m) (hd : recvDone (xRun hack P (pre ++ (H.enc ++ b0.enc ++ tail)) f0 σ).1 = true) :
    (!(xRun hack P (pre ++ (H.enc ++ b0.enc ++ tail)) f0 σ).1.closeReasons.isEmpty) =
      (!f0.closeReasons.isEmpty || hasHdr H.parsed.fields "connection" "close" || b0.isClose) := by
  obtain ⟨_, hm⟩ := C10_exchange hack f0 r wr0 P I H b0 tail pre X htail σ hσ hd
  -- a list is non-empty iff it has a member; the members are characterised by `ReasonsSpec`
  have hne : ∀ l : List CloseReason, (!l.isEmpty) = true ↔ ∃ c, c ∈ l := fun l => by
    rw [Bool.not_eq_true', List.isEmpty_eq_false_iff_exists_mem]
  rw [Bool.eq_iff_iff, hne]
  simp only [Bool.or_eq_true, hne]
  constructor
  · rintro ⟨c, hc⟩
    rcases (hm c).mp hc with h | ⟨_, h⟩ | ⟨_, h⟩
    · exact Or.inl (Or.inl ⟨c, h⟩)
    · exact Or.inl (Or.inr h)
    · exact Or.inr h
  · rintro ((⟨c, h⟩ | h) | h)
    · exact ⟨c, (hm c).mpr (Or.inl h)⟩
    · exact ⟨_, (hm _).mpr (Or.inr (Or.inl ⟨rfl, h⟩))⟩
    · exact ⟨_, (hm _).mpr (Or.inr (Or.inr ⟨rfl, h⟩))⟩

/-- **C10 (the verdict belongs to one exchange).** The flow `as_new_flow` builds for a redirect starts with
    exactly the reasons the *request* gives — HTTP/1.0, `Connection: close` on the original request — and with
    none of what happened during the exchange that was redirected: not a refused `Expect`, not the server's
    `Connection: close`, not a close-delimited body. (`followFlow` is `Flow.new` on the original request with a
    new method, then the target and the suppression list installed; the reasons are those of `C10_initial`.) -/
theorem C10_follow (prev : AReq) (nm : Method) (uri : Uri) (sameHost : Bool) (r : CloseReason) :
    r ∈ (followFlow prev nm uri sameHost).closeReasons ↔
      (r = .http10 ∧ prev.version = .h10) ∨ (r = .clientClose ∧ hasHdr prev.orig "connection" "close" = true) := by
  have h : (followFlow prev nm uri sameHost).closeReasons = (Flow.new nm prev.version prev.uri prev.orig).closeReasons := rfl
  rw [h]
  exact C10_initial nm prev.version prev.uri prev.orig r

theorem C10_follow_not100 (prev : AReq) (nm : Method) (uri : Uri) (sameHost : Bool) :
    CloseReason.not100 ∉ (followFlow prev nm uri sameHost).closeReasons := by
  intro h
  rcases (C10_follow prev nm uri sameHost .not100).mp h with ⟨h1, _⟩ | ⟨h1, _⟩ <;> cases h1

/-! non-vacuity: the example exchanges of `Props/C01.lean` (each with its `XSetup` instance there) -/
-- nothing to record: keep-alive request, length-delimited response
#guard (xRun true [] xStream xNew xTiny).1.closeReasons == []
#guard (xRun true [] xStream xNew xHuge).1.closeReasons == []
-- close-delimited body
#guard (xRun true [] xStreamC xNew xTiny).1.closeReasons == [.closeDelimited]
#guard (xRun true [] xStreamC xNew xHuge).1.closeReasons == [.closeDelimited]
-- Expect honoured with a 100 (in time, late, or given up in the middle): no `not-100` reason
#guard (xRun true xPayload xStreamEx xPostEx xHuge).1.closeReasons == []
#guard (xRun true xPayload xStreamEx xPostEx xEarly).1.closeReasons == []
#guard (xRun true xPayload xStreamEx xPostEx xMid).1.closeReasons == []
