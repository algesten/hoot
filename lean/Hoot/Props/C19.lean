import Hoot.Model.Flow
import Hoot.Proofs.WriterLink
import Hoot.Props.C04

/-! # C19 — sending a body always makes progress when progress is possible -/

theorem consumedBy_chunked (c : CallSt) (input : Bytes) (cap : Nat)
    (hm : c.writer.mode = .chunked) (he : c.writer.ended = false) (hi : input ≠ []) :
    consumedBy c input cap = consumedLen input.length cap := by
  obtain ⟨cs, _, _, _, h⟩ := writeBodyPhase_chunked c cap hm he hi
  unfold consumedBy
  rw [h]

/-- **C19 (progress), chunked.** Non-empty input and room for the smallest chunk (6 bytes) ⇒ at least
    one byte is consumed. -/
theorem C19_progress_chunked (c : CallSt) (input : Bytes) (cap : Nat)
    (hm : c.writer.mode = .chunked) (he : c.writer.ended = false) (hi : input ≠ []) (hcap : 6 ≤ cap) :
    0 < consumedBy c input cap := by
  rw [consumedBy_chunked c input cap hm he hi]
  exact C19_progress _ _ (List.length_pos_iff.mpr hi) hcap

/-- **C19 (monotone).** Offering more input never reduces progress. -/
theorem C19_more_input (c : CallSt) (a b : Bytes) (cap : Nat)
    (hm : c.writer.mode = .chunked) (he : c.writer.ended = false) (ha : a ≠ []) (hab : a.length ≤ b.length) :
    consumedBy c a cap ≤ consumedBy c b cap := by
  have hb : b ≠ [] := List.ne_nil_of_length_pos (Nat.lt_of_lt_of_le (List.length_pos_iff.mpr ha) hab)
  rw [consumedBy_chunked c a cap hm he ha, consumedBy_chunked c b cap hm he hb]
  exact C19_mono cap hab

/-- **C19 (at least the advertised maximum).** A write never consumes less than it would have, had
    only the advertised maximum input for that buffer been offered — which is that maximum itself. -/
theorem C19_at_least_advertised (c : CallSt) (input : Bytes) (cap : Nat)
    (hm : c.writer.mode = .chunked) (he : c.writer.ended = false) (hi : input ≠ [])
    (hge : calcMaxInput cap ≤ input.length) :
    calcMaxInput cap ≤ consumedBy c input cap := by
  rw [consumedBy_chunked c input cap hm he hi]
  have := C19_mono cap hge
  rw [C18_fits cap] at this
  exact this

/-- **C19 (progress), length-delimited.** One byte of room is enough. -/
theorem C19_progress_sized (c : CallSt) (left : Nat) (input : Bytes) (cap : Nat)
    (hm : c.writer.mode = .sized left) (he : c.writer.ended = false)
    (hi : input ≠ []) (hfit : input.length ≤ left) (hcap : 1 ≤ cap) :
    0 < consumedBy c input cap := by
  have hl : 0 < input.length := List.length_pos_iff.mpr hi
  unfold consumedBy
  rw [C04_copy c left input cap hm hfit (fun h => by rw [he] at h; cases h.2)]
  show 0 < min (min cap input.length) left
  omega

/-- **C19 (termination).** With a buffer of at least 6 bytes, a caller looping until its input is empty
    is done after at most `|input|` calls. -/
theorem C19_terminates (cap : Nat) (hcap : 6 ≤ cap) : ∀ (fuel rem : Nat), rem ≤ fuel → loopLen cap fuel rem = 0 := by
  intro fuel
  induction fuel with
  | zero => exact fun rem h => Nat.le_zero.mp h
  | succ fuel ih =>
    intro rem h
    simp only [loopLen]
    split
    · rfl
    · have hp := C19_progress rem cap (by omega) hcap
      have hle := consumedLen_le rem cap
      exact ih _ (by omega)

example : (6 : Nat) ≤ 6 ∧ ([1] : Bytes) ≠ [] := by decide
