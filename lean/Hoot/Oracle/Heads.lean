import Hoot.Oracle.Trace
import Hoot.Spec.Head
import Hoot.Spec.Flow

/-! Oracles for C05 (every prefix of a response head), C06 (framing decision), C20 (standalone parsers).
    Ground truth comes from the `meta head` line (the generator's structure); it is re-encoded here with the
    specification encoder `Head.enc` of the theorems and checked against the bytes actually offered. -/

def fieldsOfMeta : List String → List Field
  | n :: p :: v :: q :: rest => { name := unhex n, pre := unhex p, value := unhex v, post := unhex q } :: fieldsOfMeta rest
  | _ => []

/-- `meta head <ver> <status> <rHEX|none> <nf> {name pre value post}` -/
def headOfMeta (c : TCase) : Option Head :=
  match (c.metas.find? (·.startsWith "meta head ")).map (fun m => (m.splitOn " ").drop 2) with
  | some (v :: st :: rs :: _ :: rest) =>
    match v.toNat?, st.toList with
    | some ver, [a, b, d] =>
      some { ver := ver, d1 := a.toNat.toUInt8, d2 := b.toNat.toUInt8, d3 := d.toNat.toUInt8,
             reason := if rs == "none" then none else some (unhex (rs.drop 1).toString),
             fields := fieldsOfMeta rest }
    | _, _ => none
  | _ => none

def lowerName (b : Bytes) : String := String.ofList (b.map fun x => Char.ofNat (if 65 ≤ x ∧ x ≤ 90 then x + 32 else x).toNat)

def hdrsOfFields (fs : List Field) : List Hdr := fs.map fun f => { name := lowerName f.name, value := f.value }

/-- number of complete field lines inside the first `n` bytes of the head -/
def completeLines (h : Head) (n : Nat) : Nat :=
  let rec go (fs : List Field) (off : Nat) (k : Nat) : Nat :=
    match fs with
    | [] => k
    | f :: rest => if off + f.enc.length ≤ n then go rest (off + f.enc.length) (k + 1) else k
  go h.fields h.statusLine.length 0

def isPrefixOf (a b : Bytes) : Bool := a.length ≤ b.length && b.take a.length == a

def hasCompleteLocation (h : Head) (n : Nat) : Bool :=
  ((h.fields.take (completeLines h n)).any fun f => lowerName f.name == "location")

/-- expected text of a complete parse through `try_response` / `try_parse_response` -/
def expectResp (kw : String) (h : Head) : String :=
  s!"{kw} {h.enc.length} {h.codeVal} {h.ver}" ++ showHdrs (hdrsOfFields h.fields)

def resText (t : TLine) : String := " ".intercalate t.res

def oracleC05 (c : TCase) : Verdict :=
  match headOfMeta c with
  | none => .ok
  | some h =>
    if !h.wfb then .fail "harness bug: generated head is not well-formed" else
    let enc := h.enc
    let code := h.codeVal
    let go := c.lines.foldl (fun (acc : Option Verdict) t =>
      match acc with
      | some (.fail _) => acc
      | _ =>
      if t.kw != "resp" && t.kw != "cresp" then acc else
      let w := unhex (t.op.getD 1 "-")
      let r := resText t
      if t.isPanic then some (.fail s!"panic: {t.raw}") else
      if isPrefixOf enc w then
        -- the whole head (or more) was offered
        if h.fields.length > 128 then
          if r.startsWith "fault api:" then acc else some (.fail s!"head with {h.fields.length} fields was not rejected with an error: {r.take 60}")
        else if r == expectResp "resp" h then acc
        else some (.fail s!"complete head: expected {(expectResp "resp" h).take 120} got {r.take 120}")
      else if isPrefixOf w enc then
        -- a strict prefix
        if completeLines h w.length > 128 then
          if r.startsWith "fault api:" then acc else some (.fail s!"more than 128 complete field lines not rejected with an error: {r.take 60}")
        else if r == "resp 0 none" then acc
        else if 300 ≤ code ∧ code ≤ 399 ∧ hasCompleteLocation h w.length ∧ r.startsWith s!"resp {w.length} {code} " then
          (match acc with | some v => some v | none => some (.known "D10" s!"3xx head cut after its Location line at {w.length} of {enc.length} bytes is returned as a complete response"))
        else some (.fail s!"strict prefix ({w.length} of {enc.length} bytes) did not yield need-more-data: {r.take 100}")
      else some (.fail "harness bug: window is neither a prefix nor an extension of the head")) none
    match go with | some v => v | none => .ok

/-! C06 -/

def methodOfCase (c : TCase) : Option Method :=
  match firstNew c with
  | some t => parseMethod (t.op.getD (if t.kw == "cnew" then 2 else 1) "")
  | none => none

/-- parse ` name=hex name=hex …` as printed by `showHdrs` -/
def hdrsOfWords (ws : List String) : List Hdr :=
  ws.filterMap fun w => match w.splitOn "=" with
    | [k, v] => some { name := k, value := unhex v }
    | _ => none

def modeSpec : BodyReader → String
  | .noBody => "NoBody" | .len n => s!"LengthDelimited({n})" | .chunked _ => "Chunked" | .close => "CloseDelimited"

structure C06St where
  expect : Option (Except Fault BodyReader × Nat) := none
  readSome : Bool := false     -- body bytes were delivered since the head
  fail : Option String := none

def oracleC06 (c : TCase) : Verdict :=
  match methodOfCase c with
  | none => .ok
  | some m =>
    let st := c.lines.foldl (fun (s : C06St) t =>
      if s.fail.isSome then s else
      match t.kw with
      | "resp" =>
        -- the head offered is complete by construction; derive the rule's verdict from the raw head
        let w := unhex (t.op.getD 1 "-")
        -- status line: HTTP/1.x SSS
        let ver := (w.getD 7 49).toNat - 48
        let status := ((w.getD 9 48).toNat - 48) * 100 + ((w.getD 10 48).toNat - 48) * 10 + ((w.getD 11 48).toNat - 48)
        if status == 100 then s else
        match t.res with
        | "resp" :: _ :: st' :: _ :: hs =>
          if st' == "none" then { s with fail := some s!"complete head not parsed: {t.raw.take 100}" } else
          -- the framing fields are read off the bytes the server sent (grammar of C05), not off what the
          -- implementation reports of them
          let fields : List Hdr := match tryParseResponse 128 w with
            | .ok (some (_, r)) => r.fields
            | _ => hdrsOfWords hs
          -- the property quantifies over one Content-Length and one Transfer-Encoding field at most
          if (fields.filter (·.name == "transfer-encoding")).length > 1 || (fields.filter (·.name == "content-length")).length > 1 then
            { s with expect := none } else
          let fr := framingOf fields
          let verdict := rfcFraming (ver == 0) m status fr
          (match verdict with
           | .error _ => { s with fail := some s!"non-numeric Content-Length accepted: {t.raw.take 160}" }
           | .ok rd => { s with expect := some (.ok rd, status), readSome := false })
        | ["fault", e] =>
          if !e.startsWith "api:" then { s with fail := some s!"panic: {t.raw.take 120}" } else
          -- repeated framing fields are outside the property's quantification: refusing such a head is as good as
          -- picking one of the values
          let wireFields : List Hdr := match tryParseResponse 128 w with | .ok (some (_, r)) => r.fields | _ => []
          if (wireFields.filter (·.name == "transfer-encoding")).length > 1 || (wireFields.filter (·.name == "content-length")).length > 1 then
            { s with expect := none } else
          -- must be a non-numeric content-length: re-derive from the raw head via the model's scanner is
          -- avoided here; the raw head's Content-Length value is looked up textually
          let txt := String.ofList (w.map fun b => Char.ofNat b.toNat)
          let clv := ((txt.splitOn "Content-Length: ").getD 1 "").splitOn "\r\n" |>.headD ""
          if clv.toList.all Char.isDigit && !clv.isEmpty && clv.length < 20 then
            { s with fail := some s!"numeric Content-Length rejected: {t.raw.take 120}" }
          else { s with expect := some (.error (.api .badContentLengthHeader), status) }
        | _ => { s with fail := some s!"unexpected result for a complete head: {t.raw.take 160}" }
      | "proceed" | "proceed!" =>
        if t.st == "sendRequest" || t.st == "sendBody" then s else
        match s.expect, t.res with
        | some (.ok rd, status), "state" :: nxt :: _ =>
          if nxt == "recvResponse" || nxt == "sendBody" || nxt == "sendRequest" || nxt == "await100" then s else
          if nxt == successorSpec rd status then s
          else { s with fail := some s!"state after the head is {nxt}, the rules give {successorSpec rd status} (mode {modeSpec rd}, status {status})" }
        | _, _ => s
      | "bread" =>
        -- a length-delimited body: what remains is what was expected minus what was delivered
        (match s.expect, t.res with
         | some (.ok (.len n), st), ["bytes", i, _] => { s with expect := some (.ok (.len (n - i.toNat!)), st), readSome := s.readSome || i != "0" }
         | _, _ => s)
      | "canproceed" =>
        if t.st != "recvBody" then s else
        (match s.expect, t.res with
         | some (.ok (.len n), _), ["bool", b] =>
           if (b == "true") == (n == 0) then s else { s with fail := some s!"body complete={b} with {n} bytes of the declared length outstanding" }
         | _, _ => s)
      | "mode" =>
        match s.expect, t.res with
        | some (.ok rd, _), ["str", mtxt] =>
          -- the kind of framing is what the property fixes; for a length-delimited body the number reported
          -- may be what remains or what was declared
          let sameKind := match rd with
            | .len _ => mtxt.startsWith "LengthDelimited("
            | _ => mtxt == modeSpec rd
          if mtxt == modeSpec rd || (s.readSome && sameKind) then s else { s with fail := some s!"body mode {mtxt}, the rules give {modeSpec rd}" }
        | _, _ => s
      | _ => s) ({} : C06St)
    match st.fail with | some w => .fail w | none => .ok

/-! C20 -/

def isUriTokO (b : UInt8) : Bool := 33 ≤ b && b ≤ 126 && b != 60 && b != 62

structure ReqMeta where
  method : Bytes
  target : Bytes
  ver : Nat
  fields : List Field

def reqOfMeta (c : TCase) : Option ReqMeta :=
  match (c.metas.find? (·.startsWith "meta reqhead ")).map (fun m => (m.splitOn " ").drop 2) with
  | some (m :: t :: v :: _ :: rest) => v.toNat?.map fun ver => { method := unhex m, target := unhex t, ver := ver, fields := fieldsOfMeta rest }
  | _ => none

def ReqMeta.line (r : ReqMeta) : Bytes := r.method ++ [32] ++ r.target ++ [32, 72, 84, 84, 80, 47, 49, 46, (48 + r.ver).toUInt8, 13, 10]
def ReqMeta.enc (r : ReqMeta) : Bytes := r.line ++ (encFields r.fields ++ [13, 10])

def completeLinesFrom (fs : List Field) (start n : Nat) : Nat :=
  let rec go (fs : List Field) (off : Nat) (k : Nat) : Nat :=
    match fs with
    | [] => k
    | f :: rest => if off + f.enc.length ≤ n then go rest (off + f.enc.length) (k + 1) else k
  go fs start 0

def limitOf (c : TCase) : Nat := ((metaVal c "limit").bind (·.head?)).bind (·.toNat?) |>.getD 128

def oracleC20 (c : TCase) : Verdict :=
  let lim := limitOf c
  let chk := fun (acc : Option String) (t : TLine) (enc : Bytes) (fields : List Field) (start : Nat) (full : String) (kw : String) =>
    match acc with
    | some _ => acc
    | none =>
      if t.kw != kw then acc else
      let w := unhex (t.op.getD 2 "-")
      let r := resText t
      if t.isPanic then some s!"panic: {t.raw.take 80}" else
      if isPrefixOf enc w then
        if fields.length > lim then (if r == "fault api:HttpParseTooManyHeaders" then none else some s!"{fields.length} fields with limit {lim} not rejected: {r.take 60}")
        else if r == full then none else some s!"complete head: expected {full.take 100} got {r.take 100}"
      else if isPrefixOf w enc then
        if completeLinesFrom fields start w.length > lim then
          (if r == "fault api:HttpParseTooManyHeaders" then none else some s!"more complete field lines than the limit {lim}, not rejected: {r.take 60}")
        else if r == "none" then none else some s!"strict prefix ({w.length} of {enc.length}) within the limit is not 'incomplete': {r.take 80}"
      else none
  -- a case may describe a response head, a request head, or both: each is judged
  let reqV : Verdict := match reqOfMeta c with
    | some q =>
      if !(q.target.all isUriTokO) || q.target.isEmpty then .ok else
      if !(q.fields.all Field.wfb) then .fail "harness bug: generated fields are not well-formed" else
      let enc := q.enc
      let full := s!"preq {enc.length} {toHex q.method} {q.ver}" ++ showHdrs (hdrsOfFields q.fields)
      let st := c.lines.foldl (fun (acc : Option String) t => chk acc t enc q.fields q.line.length full "parse-req") none
      (match st with | some w => .fail w | none => .ok)
    | none => .ok
  match reqV with
  | .fail w => .fail w
  | _ =>
  match headOfMeta c, reqOfMeta c with
  | some h, _ =>
    if !h.wfb then .fail "harness bug: generated head is not well-formed" else
    let enc := h.enc
    let st := c.lines.foldl (fun (acc : Option String) t =>
      let acc := chk acc t enc h.fields h.statusLine.length (expectResp "presp" h) "parse-resp"
      match acc with
      | some _ => acc
      | none =>
        if t.kw != "parse-partial" then acc else
        let w := unhex (t.op.getD 2 "-")
        let r := resText t
        if t.isPanic then some s!"panic: {t.raw.take 80}" else
        if !(isPrefixOf w enc || isPrefixOf enc w) then acc else
        let k := completeLinesFrom h.fields h.statusLine.length w.length
        if k > lim then acc else
        if r == "none" then
          -- allowed only while the status line is incomplete
          (if w.length ≥ h.statusLine.length then some s!"partial parser gave nothing although the status line is complete ({w.length} bytes)" else acc)
        else if r.startsWith "fault" then some s!"partial parser failed on a prefix of a well-formed head within the limit: {r} at {w.length} of {enc.length}"
        else
          -- every reported field must be a completely present field line, in order
          -- the number of reported fields fixes the only candidate prefix of the field list
          let j := (t.res.drop 3).length
          if j ≤ k && r == s!"ppartial {h.codeVal} {h.ver}" ++ showHdrs (hdrsOfFields (h.fields.take j)) then acc else some s!"partial parser reported a field that is not completely present (window {w.length} bytes, {k} complete lines): {r.take 120}") none
    (match st with | some w => .fail w | none => .ok)
  | none, _ => reqV
