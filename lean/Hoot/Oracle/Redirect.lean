import Hoot.Oracle.ReqHead
import Hoot.Oracle.Heads
import Hoot.Spec.Flow

/-! Oracles for the redirect properties C13 (credentials / stale framing), C14 (target resolution),
    C15 (method table), on the implementation's traces. -/

structure RdSt where
  origUri : String := ""
  origHdrs : List Hdr := []
  curUri : String := ""
  curMethod : String := ""
  followed : Bool := false              -- the current flow was produced by as_new_flow
  addedNames : List String := []        -- names added with `hdr` on the current flow
  keepAuthOk : Bool := false            -- may the inherited Authorization be present on the current flow?
  oocFlow : Bool := false               -- the current flow's URI came from a Location outside the modelled class
  lastStatus : Option Nat := none
  lastVer : Nat := 1                    -- version digit of the last response
  lastHdrs : List Hdr := []             -- header fields of the last response as reported
  lastLoc : Option Bytes := none        -- last Location value of the last response (none: no such field)
  hadResp : Bool := false
  prevState : String := "gone"
  fail : Option String := none

def lowerStr (s : String) : String := s.toLower

/-- lines of a head (without CRLF) -/
def headLines (b : Bytes) : List Bytes :=
  let rec go (fuel : Nat) (rest : Bytes) (cur : Bytes) (acc : List Bytes) : List Bytes :=
    match fuel, rest with
    | 0, _ => acc.reverse
    | _, [] => (if cur.isEmpty then acc else cur.reverse :: acc).reverse
    | f + 1, 13 :: 10 :: r => go f r [] (cur.reverse :: acc)
    | f + 1, x :: r => go f r (x :: cur) acc
  go (b.length + 1) b [] []

def lineName (l : Bytes) : String := lowerStr (asciiStr (l.takeWhile (· != 58)))

def lastLocationOf (hs : List Hdr) : Option Bytes := ((hs.filter (·.name == "location")).getLast?).map (·.value)

def walkRedirect (c : TCase) (which : String) : RdSt :=
  c.lines.foldl (fun (s : RdSt) t =>
    if s.fail.isSome then s else
    if t.isPanic then { s with fail := some s!"panic: {t.raw.take 100}" } else
    let s1 := { s with prevState := t.st }
    match t.kw with
    | "new" =>
      (match t.op with
       | _ :: m :: _ :: u :: _ :: rest =>
         { s1 with origUri := u, origHdrs := pairsOf rest, curUri := u, curMethod := m, followed := false, addedNames := [],
                   lastStatus := none, lastLoc := none, hadResp := false }
       | _ => s1)
    | "hdr" => (match t.op, t.res with | [_, k, _], ["unit"] => { s1 with addedNames := k.toLower :: s.addedNames } | _, _ => s1)
    | "hmap" =>
      -- the accessor's view of the request created for a redirect: the same absences as on the wire
      (match t.res with
       | "map" :: _ :: kvs =>
         let names := (List.range (kvs.length / 2)).map fun i => kvs.getD (2 * i) ""
         if !s.followed || !(which == "C13" || which == "all") then s1 else
         if names.contains "cookie" && !s.addedNames.contains "cookie" then { s with fail := some "headers_map() of the request created for the redirect shows the previous request's Cookie header" } else
         if names.contains "content-length" && !s.addedNames.contains "content-length" then { s with fail := some "headers_map() of the request created for the redirect shows the previous request's Content-Length header" } else
         if names.contains "authorization" && !s.addedNames.contains "authorization" && !s.keepAuthOk then { s with fail := some "headers_map() of the request created for the redirect shows the previous request's Authorization header although policy / host / scheme do not allow it" } else s1
       | _ => s1)
    | "resp" =>
      (match t.res with
       | "resp" :: _ :: st' :: ver :: hs =>
         if st' == "none" then s1 else
         -- the Location is read off the bytes the server sent (grammar of C05), not off what the implementation
         -- reports of them; for a head the grammar does not complete (partial-redirect fallback) the report is used
         let fromWire : Option (List Hdr) :=
           match tryParseResponse 128 (unhex (t.op.getD 1 "-")) with
           | .ok (some (_, r)) => some r.fields
           | _ => none
         let loc := match fromWire with | some fs => lastLocationOf fs | none => lastLocationOf (hdrsOfWords hs)
         { s1 with lastStatus := st'.toNat?, lastVer := ver.toNat?.getD 1, lastHdrs := hdrsOfWords hs, lastLoc := loc, hadResp := true }
       | _ => s1)
    | "status" =>
      (match t.res, s.lastStatus with
       | ["count", n], some st => if n.toNat? == some st then s1 else { s with fail := some s!"redirect state reports status {n}, the response had {st}" }
       | _, _ => s1)
    | "proceed" | "proceed!" =>
      (match t.res, s.lastStatus with
       | "state" :: nxt :: _, some st =>
         if (s.prevState == "recvResponse" || s.prevState == "recvBody") && (nxt == "redirect" || nxt == "cleanup") then
           let want := if 300 ≤ st ∧ st ≤ 399 ∧ st ≠ 304 then "redirect" else "cleanup"
           if nxt == want then s1 else { s with fail := some s!"status {st}: expected the {want} state, got {nxt}" }
         else if s.prevState == "recvResponse" && nxt == "recvBody" && (which == "C15" || which == "all") && decide (300 ≤ st ∧ st ≤ 399 ∧ st ≠ 304) then
           -- no body is due (C06: HEAD, CONNECT 2xx, a declared length of 0, no framing on a 3xx): the redirect state
           -- follows the head at once; a body state here is one that can never be left
           (match parseMethod s.curMethod with
            | some m =>
              (match rfcFraming (s.lastVer == 0) m st (framingOf s.lastHdrs) with
               | .ok rd => if successorSpec rd st == "redirect" then
                   { s with fail := some s!"status {st} answering {s.curMethod} has no body: the redirect state must be entered right after the head, the flow went to {nxt}" } else s1
               | .error _ => s1)
            | none => s1)
         else s1
       | _, _ => s1)
    | "follow" =>
      let pol := t.op.getD 1 "never"
      let st := s.lastStatus.getD 0
      let mOpt := parseMethod s.curMethod
      -- C15: the method table
      let tbl : Option (Option Method) := mOpt.map fun m => tableSpec m st
      -- C14: the target
      let target : Option Res3986 :=
        match s.lastLoc, parseUri s.curUri with
        | some loc, some base =>
          if !isTextual loc then none else some (resolve base (asciiStr loc))
        | _, _ => none
      (match t.res with
       | ["flow", m', u'] =>
         let keep : Bool := pol == "samehost" && lowerStr (uriHost s.origUri) == lowerStr (uriHost u') && ((splitUri s.origUri).1 == (splitUri u').1 || (splitUri u').1 == "https")
         let s2 : RdSt := { s1 with curUri := u', curMethod := m', followed := true, addedNames := [], lastStatus := none, lastLoc := none, hadResp := false, keepAuthOk := keep, oocFlow := s.oocFlow || (match target with | some (.ok _) => false | _ => true) }
         if (which == "C15" || which == "all") && (match tbl with | some (some m) => m.text != m' | some none => true | none => false) then
           { s with fail := some s!"method table: {s.curMethod} after {st} must become {match tbl with | some (some m) => m.text | _ => "(not followed)"}, got {m'}" }
         else if which == "C14" || which == "all" then
           (match s.lastLoc with
            | none => { s with fail := some "a redirect without Location was followed" }
            | some loc =>
              if !isTextual loc then { s with fail := some "a non-textual Location was followed" } else
              match (if s.oocFlow then none else target) with
              | some (.ok uri) => if uri.text == u' then s2 else { s with fail := some s!"Location {asciiStr loc} against {s.curUri}: RFC 3986 gives {uri.text}, got {u'}" }
              | some .err => { s with fail := some s!"unresolvable Location {asciiStr loc} was followed to {u'}" }
              | _ => s2)
         else s2
       | ["none"] =>
         if (which == "C15" || which == "all") && (match tbl with | some (some _) => true | _ => false) then
           { s with fail := some s!"method table: {s.curMethod} after {st} must be followed, but the redirect was refused" } else s1
       | "fault" :: e :: _ =>
         -- C15: a redirect the table says is followed, with a Location that resolves, yields the new flow
         if (which == "C15" || which == "all") && (match tbl, target with | some (some _), some (.ok _) => true | _, _ => false) then
           { s with fail := some s!"method table: {s.curMethod} after {st} must be followed as {match tbl with | some (some m) => m.text | _ => "?"}, but as_new_flow failed with {e}" }
         else if which == "C14" || which == "all" then
           (match s.lastLoc with
            | none => if e.startsWith "api:" then s1 else { s with fail := some s!"missing Location reported as {e}" }
            | some loc =>
              if !isTextual loc then (if e.startsWith "api:" then s1 else { s with fail := some s!"non-textual Location reported as {e}" })
              else match target with
                | some (.ok uri) => { s with fail := some s!"resolvable Location {asciiStr loc} (→ {uri.text}) refused with {e}" }
                | _ => s1)
         else s1
       | _ => s1)
    | "uri?" =>
      (match t.res with
       | ["str", u] => if !s.followed || u == s.curUri then s1 else { s with fail := some s!"flow reports URI {u} after being created for {s.curUri}" }
       | _ => s1)
    | "method?" =>
      (match t.res with
       | ["str", m] => if !s.followed || m == s.curMethod then s1 else { s with fail := some s!"flow reports method {m} after being created with {s.curMethod}" }
       | _ => s1)
    | "write" =>
      if !s.followed || t.st != "sendRequest" then s1 else
      (match t.res with
       | ["bytes", _, o] =>
         if o.startsWith "#" || o == "-" then s1 else
         let ls := headLines (unhex o)
         let names := (ls.drop 1).map lineName
         -- C13: credentials and stale framing
         -- lines of that name beyond those the caller added to this very flow come from the previous request
         let inheritedCookie := names.count "cookie" > s.addedNames.count "cookie"
         let inheritedCL := names.count "content-length" > s.addedNames.count "content-length"
         let inheritedAuth := names.count "authorization" > s.addedNames.count "authorization"
         if (which == "C13" || which == "all") && inheritedCookie then { s with fail := some s!"the request created for the redirect carries the previous request's Cookie header" }
         else if (which == "C13" || which == "all") && inheritedCL then { s with fail := some s!"the request created for the redirect carries the previous request's Content-Length header" }
         else if (which == "C13" || which == "all") && inheritedAuth && !s.keepAuthOk then
           { s with fail := some s!"Authorization sent to {s.curUri} (original {s.origUri}) although policy / host / scheme do not allow it" }
         else if (which == "C14" || which == "all") && !s.oocFlow then
           -- request line and Host derive from the new URI
           let reqLine := asciiStr (ls.headD [])
           let wantLine := s.curMethod ++ " " ++ uriPathQuery s.curUri ++ " HTTP/1.1"
           if reqLine != wantLine then { s with fail := some s!"request line {reqLine}, expected {wantLine}" } else
           -- the caller's own Host header: added on this flow, or set on the original request and still on the
           -- host it was set for (D13: it does not travel to another host)
           let explicitHost := (s.origHdrs.any (·.name == "host") && lowerStr (uriHost s.origUri) == lowerStr (uriHost s.curUri)) ||
                               s.addedNames.contains "host"
           let hostLine := (ls.drop 1).find? (fun l => lineName l == "host")
           (match hostLine with
            | some hl =>
              let v := asciiStr ((hl.dropWhile (· != 58)).drop 2)
              if explicitHost || v == uriHost s.curUri then s1 else { s with fail := some s!"Host {v} does not name the host of {s.curUri}" }
            | none => { s with fail := some "no Host header in the redirected request" })
         else s1
       | ["fault", "api:MethodForbidsBody"] =>
         -- the request built for the redirect takes no body; it can only be refused like this when framing was
         -- inherited from the previous request (the caller added nothing, the original had no Transfer-Encoding)
         if (which == "C13" || which == "all") && s.addedNames.isEmpty && !isBodyMethod s.curMethod &&
            s.origHdrs.any (·.name == "content-length") && !s.origHdrs.any (·.name == "transfer-encoding") then
           { s with fail := some s!"the {s.curMethod} request created for the redirect is refused as carrying a body: the previous request's Content-Length was inherited" }
         else s1
       | _ => s1)
    | _ => s1) ({} : RdSt)

def oracleRedirect (which : String) (c : TCase) : Verdict :=
  match (walkRedirect c which).fail with | some w => .fail w | none => .ok
