import Hoot.Model.Resp

/-! An executable twin of the response scanner whose field-name and field-value accumulators grow at the head
    (`b :: acc`, reversed once when the name / value is complete) instead of at the tail (`acc ++ [b]`), so that
    replaying a head costs time linear in its length. `parseResp_eq_fast` proves it equal to `parseResp` for
    every input and is registered with `@[csimp]`: compiled code (the replay driver, the oracles) runs the twin,
    the theorems keep talking about `parseResp`. Nothing here is trusted: the equation is kernel-checked. -/

/-- the scanner state read back: accumulators of the phases in progress are stored reversed -/
def unFP : RPhase → RPhase
  | .name acc => .name acc.reverse
  | .value nm acc => .value nm acc.reverse
  | .valueCR nm acc => .valueCR nm acc.reverse
  | p => p

def unF (s : RState) : RState := { s with phase := unFP s.phase }

def respStepF (s : RState) (b : UInt8) : StepR RState RDone HErr :=
  match s.phase with
  | .name acc =>
    if isNameTok b then .next { s with phase := .name (b :: acc) }
    else if b == 58 then .next { s with phase := .ows acc.reverse } else .err .headerName
  | .value nm acc =>
    if isValueTok b then .next { s with phase := .value nm (b :: acc) }
    else if b == 13 then .next { s with phase := .valueCR nm acc }
    else if b == 10 then endField s nm acc.reverse
    else .err .headerValue
  | .valueCR nm acc => if b == 10 then endField s nm acc.reverse else .err .headerValue
  | _ => respStep s b

def mapStep (f : RState → RState) : StepR RState RDone HErr → StepR RState RDone HErr
  | .next s => .next (f s)
  | .done r => .done r
  | .err e => .err e

def mapRun (f : RState → RState) : RunR RState RDone HErr → RunR RState RDone HErr
  | .more s => .more (f s)
  | .complete r u => .complete r u
  | .error e => .error e

theorem mapStep_next (f : RState → RState) (s : RState) : mapStep f (.next s) = .next (f s) := rfl
theorem mapStep_done (f : RState → RState) (r : RDone) : mapStep f (.done r) = .done r := rfl
theorem mapStep_err (f : RState → RState) (e : HErr) : mapStep f (.err e) = .err e := rfl

theorem mapStep_finish (f : RState → RState) (s : RState) : mapStep f (finish s) = finish s := by
  unfold finish
  split <;> rfl

/-- The scanners differ in the three phases with an accumulator, where `reverse_cons` turns `(b :: acc).reverse`
    into `acc.reverse ++ [b]`; everywhere else both sides compute to the same branches. -/
theorem respStep_unF (s : RState) (b : UInt8) : respStep (unF s) b = mapStep unF (respStepF s b) := by
  obtain ⟨phase, version, code, fields, slots⟩ := s
  cases phase <;>
    simp only [unF, unFP, respStep, respStepF, endField, apply_ite (mapStep unF), mapStep_next, mapStep_err,
      mapStep_finish, List.reverse_cons] <;>
    rfl

theorem runFrom_unF (input : Bytes') (s : RState) (k : Nat) :
    runFrom respStep (unF s) input k = mapRun unF (runFrom respStepF s input k) := by
  induction input generalizing s k with
  | nil => rfl
  | cons b bs ih =>
    simp only [runFrom]
    rw [respStep_unF]
    cases h : respStepF s b with
    | next s' => exact ih s' (k + 1)
    | done r => rfl
    | err e => rfl

def parseRespFast (slots : Nat) (input : Bytes') : RunR RState RDone HErr :=
  mapRun unF (runFrom respStepF (respInit slots) input 0)

@[csimp] theorem parseResp_eq_fast : @parseResp = @parseRespFast := by
  funext slots input
  unfold parseResp parseRespFast
  rw [← runFrom_unF]
  rfl
