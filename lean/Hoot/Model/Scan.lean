/-! Generic byte-at-a-time scanner: prefix-safety is structural. -/
abbrev Bytes' := List UInt8

inductive StepR (σ ρ ε : Type)
  | next (s : σ)
  | done (r : ρ)      -- the byte just read was the last byte of the item
  | err (e : ε)

inductive RunR (σ ρ ε : Type)
  | more (s : σ)                  -- input exhausted
  | complete (r : ρ) (used : Nat) -- used = number of bytes consumed
  | error (e : ε)


variable {σ ρ ε : Type}

def runFrom (step : σ → UInt8 → StepR σ ρ ε) : σ → Bytes' → Nat → RunR σ ρ ε
  | s, [], _ => .more s
  | s, b :: bs, k =>
    match step s b with
    | .next s' => runFrom step s' bs (k + 1)
    | .done r => .complete r (k + 1)
    | .err e => .error e

theorem runFrom_cons_next {step : σ → UInt8 → StepR σ ρ ε} {s s' : σ} {b : UInt8} (h : step s b = .next s')
    (bs : Bytes') (k : Nat) : runFrom step s (b :: bs) k = runFrom step s' bs (k + 1) := by
  simp only [runFrom, h]

theorem runFrom_cons_err {step : σ → UInt8 → StepR σ ρ ε} {s : σ} {b : UInt8} {e : ε} (h : step s b = .err e)
    (bs : Bytes') (k : Nat) : runFrom step s (b :: bs) k = .error e := by
  simp only [runFrom, h]

theorem runFrom_loop (step : σ → UInt8 → StepR σ ρ ε) (S : Bytes' → σ) (l : Bytes')
    (h : ∀ acc, ∀ b ∈ l, step (S acc) b = .next (S (acc ++ [b]))) (acc rest : Bytes') (k : Nat) :
    runFrom step (S acc) (l ++ rest) k = runFrom step (S (acc ++ l)) rest (k + l.length) := by
  induction l generalizing acc k with
  | nil => simp
  | cons b bs ih =>
    rw [List.cons_append, runFrom_cons_next (h acc b List.mem_cons_self),
      ih (fun acc x hx => h acc x (List.mem_cons_of_mem b hx))]
    simp [Nat.add_assoc, Nat.add_comm 1]

theorem runFrom_skip (step : σ → UInt8 → StepR σ ρ ε) (s : σ) (l : Bytes') (h : ∀ b ∈ l, step s b = .next s)
    (rest : Bytes') (k : Nat) : runFrom step s (l ++ rest) k = runFrom step s rest (k + l.length) :=
  runFrom_loop step (fun _ => s) l (fun _ => h) [] rest k

theorem runFrom_append (step : σ → UInt8 → StepR σ ρ ε) (s : σ) (a b : Bytes') (k : Nat) :
    runFrom step s (a ++ b) k =
      match runFrom step s a k with
      | .more s' => runFrom step s' b (k + a.length)
      | r => r := by
  fun_induction runFrom step s a k with
  | case1 s k => rfl
  | case2 s x xs k s' hs ih =>
    rw [List.cons_append, runFrom_cons_next hs, ih, List.length_cons, Nat.add_assoc, Nat.add_comm 1]
  | case3 s x xs k r hs => simp only [List.cons_append, runFrom, hs]
  | case4 s x xs k e hs => simp only [List.cons_append, runFrom, hs]

theorem complete_used_le (step : σ → UInt8 → StepR σ ρ ε) (s : σ) (a : Bytes') (k : Nat) (r : ρ) (u : Nat)
    (h : runFrom step s a k = .complete r u) : k < u ∧ u ≤ k + a.length := by
  fun_induction runFrom step s a k with
  | case1 s k => cases h
  | case2 s x xs k s' hs ih =>
    have := ih h
    rw [List.length_cons]
    omega
  | case3 s x xs k r' hs =>
    injection h with _ hu
    rw [List.length_cons]
    omega
  | case4 s x xs k e hs => cases h

theorem runFrom_take (step : σ → UInt8 → StepR σ ρ ε) (s : σ) (l : Bytes') (k n : Nat) :
    runFrom step s l k =
      match runFrom step s (l.take n) k with
      | .more s' => runFrom step s' (l.drop n) (k + (l.take n).length)
      | r => r := by
  rw [← runFrom_append, List.take_append_drop]

theorem complete_prefix {step : σ → UInt8 → StepR σ ρ ε} {s : σ} {a : Bytes'} {r : ρ} {u : Nat}
    (h : runFrom step s a 0 = .complete r u) {n : Nat} (hn : n < u) :
    ∃ st, runFrom step s (a.take n) 0 = .more st := by
  rw [runFrom_take step s a 0 n] at h
  split at h
  · rename_i st hp
    exact ⟨st, hp⟩
  · -- else the run over the prefix is the verdict itself, though it has seen only `n` bytes
    have hu := (complete_used_le step s (a.take n) 0 r u h).2
    rw [List.length_take] at hu
    omega

theorem suffix_ignored (step : σ → UInt8 → StepR σ ρ ε) (s : σ) (H rest : Bytes') (r : ρ)
    (h : runFrom step s H 0 = .complete r H.length) :
    runFrom step s (H ++ rest) 0 = .complete r H.length := by
  rw [runFrom_append, h]

theorem more_split {step : σ → UInt8 → StepR σ ρ ε} {s : σ} {a : Bytes'} {k : Nat} {st : σ}
    (h : runFrom step s a k = .more st) (n : Nat) :
    ∃ st', runFrom step s (a.take n) k = .more st' ∧
      runFrom step st' (a.drop n) (k + (a.take n).length) = .more st := by
  rw [runFrom_take step s a k n] at h
  split at h
  · rename_i st' hp
    exact ⟨st', hp, h⟩
  · rename_i hne
    exact absurd h (hne st)
