import Hoot.Model.ReqParse

/-! The same executable twin for the request scanner (see `RespFast.lean`): accumulators grow at the head and
    are reversed once when the method / target / name / value is complete; `parseReq_eq_fast` is the
    kernel-checked equation, registered with `@[csimp]`. -/

def unQP : QPhase → QPhase
  | .method acc => .method acc.reverse
  | .uri m acc => .uri m acc.reverse
  | .name acc => .name acc.reverse
  | .value nm acc => .value nm acc.reverse
  | .valueCR nm acc => .valueCR nm acc.reverse
  | p => p

def unQ (s : QState) : QState := { s with phase := unQP s.phase }

def reqStepF (s : QState) (b : UInt8) : StepR QState QDone HErr :=
  match s.phase with
  | .method acc =>
    if b == 32 then .next { s with phase := .uri acc.reverse [], method := some acc.reverse }
    else if isMethodTok b then .next { s with phase := .method (b :: acc) } else .err .token
  | .uri m acc =>
    if isUriTok b then .next { s with phase := .uri m (b :: acc) }
    else if b == 32 then
      if acc.isEmpty then .err .token else .next { s with phase := .ver 0, path := some acc.reverse }
    else .err .token
  | .name acc =>
    if isNameTok b then .next { s with phase := .name (b :: acc) }
    else if b == 58 then .next { s with phase := .ows acc.reverse } else .err .headerName
  | .value nm acc =>
    if isValueTok b then .next { s with phase := .value nm (b :: acc) }
    else if b == 13 then .next { s with phase := .valueCR nm acc }
    else if b == 10 then qEndField s nm acc.reverse
    else .err .headerValue
  | .valueCR nm acc => if b == 10 then qEndField s nm acc.reverse else .err .headerValue
  | _ => reqStep s b

def mapStepQ (f : QState → QState) : StepR QState QDone HErr → StepR QState QDone HErr
  | .next s => .next (f s)
  | .done r => .done r
  | .err e => .err e

def mapRunQ (f : QState → QState) : RunR QState QDone HErr → RunR QState QDone HErr
  | .more s => .more (f s)
  | .complete r u => .complete r u
  | .error e => .error e

theorem mapStepQ_next (f : QState → QState) (s : QState) : mapStepQ f (.next s) = .next (f s) := rfl
theorem mapStepQ_done (f : QState → QState) (r : QDone) : mapStepQ f (.done r) = .done r := rfl
theorem mapStepQ_err (f : QState → QState) (e : HErr) : mapStepQ f (.err e) = .err e := rfl

theorem mapStepQ_finish (f : QState → QState) (s : QState) : mapStepQ f (qFinish s) = qFinish s := by
  unfold qFinish
  split <;> rfl

/-- as `respStep_unF`, with five accumulating phases -/
theorem reqStep_unQ (s : QState) (b : UInt8) : reqStep (unQ s) b = mapStepQ unQ (reqStepF s b) := by
  obtain ⟨phase, method, path, version, fields, slots⟩ := s
  cases phase <;>
    simp only [unQ, unQP, reqStep, reqStepF, qEndField, apply_ite (mapStepQ unQ), mapStepQ_next, mapStepQ_err,
      mapStepQ_finish, List.reverse_cons, List.isEmpty_reverse] <;>
    rfl

theorem runFrom_unQ (input : Bytes') (s : QState) (k : Nat) :
    runFrom reqStep (unQ s) input k = mapRunQ unQ (runFrom reqStepF s input k) := by
  induction input generalizing s k with
  | nil => rfl
  | cons b bs ih =>
    simp only [runFrom]
    rw [reqStep_unQ]
    cases h : reqStepF s b with
    | next s' => exact ih s' (k + 1)
    | done r => rfl
    | err e => rfl

def parseReqFast (slots : Nat) (input : Bytes') : RunR QState QDone HErr :=
  mapRunQ unQ (runFrom reqStepF (reqInit slots) input 0)

@[csimp] theorem parseReq_eq_fast : @parseReq = @parseReqFast := by
  funext slots input
  unfold parseReq parseReqFast
  rw [← runFrom_unQ]
  rfl
