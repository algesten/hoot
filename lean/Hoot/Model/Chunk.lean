/-! Prototype: dechunker model mirroring src/chunk.rs -/

abbrev Bytes := List UInt8

def CR : UInt8 := 13
def LF : UInt8 := 10

/-- util.rs find_crlf: first CR; the byte after it must exist and be LF. -/
def findCrlf : Bytes → Option Nat
  | [] => none
  | c :: rest =>
    if c = CR then
      match rest with
      | d :: _ => if d = LF then some 0 else none
      | [] => none
    else (findCrlf rest).map (· + 1)

inductive Err | chunkExpectedCrLf | chunkLenNotAscii | chunkLenNotANumber | panic
  deriving DecidableEq, Repr

inductive Dechunker
  | size | chunk (left : Nat) | crlf | ending | trailer | ended
  deriving DecidableEq, Repr

def hexVal (c : UInt8) : Option Nat :=
  if 48 ≤ c ∧ c ≤ 57 then some (c.toNat - 48)
  else if 97 ≤ c ∧ c ≤ 102 then some (c.toNat - 87)
  else if 65 ≤ c ∧ c ≤ 70 then some (c.toNat - 55)
  else none

def parseHexAux : Bytes → Nat → Option Nat
  | [], acc => some acc
  | c :: cs, acc => match hexVal c with
    | some v => parseHexAux cs (acc * 16 + v)
    | none => none

def USIZE_MAX : Nat := 2^64 - 1

/-- model of `usize::from_str_radix(s,16)` for ASCII input without trim subtleties (prototype) -/
def parseHex (s : Bytes) : Option Nat :=
  match s with
  | [] => none
  | _ => match parseHexAux s 0 with
    | some n => if n ≤ USIZE_MAX then some n else none
    | none => none

/-- index of first occurrence of `c` -/
def firstIdx (c : UInt8) : Bytes → Option Nat
  | [] => none
  | x :: xs => if x = c then some 0 else (firstIdx c xs).map (· + 1)

structure Pos where
  i : Nat  -- index_in
  o : Bytes -- bytes written so far (reverse not needed)
  deriving Repr

/-- read_size on the remaining src. returns (more?, new state, consumed) -/
def readSize (src : Bytes) : Except Err (Option (Dechunker × Nat)) :=
  match findCrlf src with
  | none => .ok none
  | some i =>
    if i > 20 then .error .chunkExpectedCrLf else
    let metaPos := firstIdx 59 (src.take 100)
    let lenEnd := min (metaPos.getD 21) i
    match parseHex (src.take lenEnd) with
    | none => .error .chunkLenNotANumber
    | some len => .ok (some (if len = 0 then .ending else .chunk len, i + 2))

/-- one iteration of the inner loop; returns (more, state', consumed, produced) -/
def stepOnce (st : Dechunker) (src : Bytes) (cap : Nat) : Except Err (Bool × Dechunker × Nat × Bytes) :=
  match st with
  | .size => do
    match ← readSize src with
    | none => pure (false, .size, 0, [])
    | some (st', n) => pure (true, st', n, [])
  | .chunk left =>
    let n := min (min src.length cap) left
    let left' := left - n
    pure (decide (n > 0), if left' = 0 then .crlf else .chunk left', n, src.take n)
  | .crlf =>
    match findCrlf src with
    | none => pure (false, .crlf, 0, [])
    | some i => if i > 0 then .error .chunkExpectedCrLf else pure (false, .size, 2, [])
  | .ending =>
    match findCrlf src with
    | none => pure (false, .ending, 0, [])
    | some i => if i = 0 then pure (true, .ended, 2, []) else pure (true, .trailer, 0, [])
  | .trailer =>
    match findCrlf src with
    | none => pure (false, .trailer, 0, [])
    | some i => if i = 0 then .error .panic else pure (true, .ending, i + 2, [])
  | .ended => pure (false, .ended, 0, [])

/-- parse_input: inner loop, fuel-bounded -/
def parseInput : Nat → Dechunker → Bytes → Nat → Except Err (Dechunker × Nat × Bytes)
  | 0, st, _, _ => .ok (st, 0, [])
  | fuel + 1, st, src, cap => do
    let (more, st', n, out) ← stepOnce st src cap
    if more then
      let (st'', n', out') ← parseInput fuel st' (src.drop n) (cap - out.length)
      pure (st'', n + n', out ++ out')
    else pure (st', n, out)

theorem findCrlf_take (a b : Bytes) (h : ∀ x ∈ a, x ≠ CR) (m : Nat) :
    findCrlf ((a ++ CR :: LF :: b).take m) = if a.length + 2 ≤ m then some a.length else none := by
  induction a generalizing m with
  | nil => rcases m with _ | _ | m <;> simp [findCrlf]
  | cons x xs ih =>
    obtain ⟨hx, hxs⟩ := List.forall_mem_cons.mp h
    match m with
    | 0 => simp [findCrlf]
    | m + 1 =>
      simp only [List.cons_append, List.take_succ_cons, findCrlf, hx, if_false]
      rw [ih hxs]
      by_cases hm : xs.length + 2 ≤ m <;> simp [hm]
