import Hoot.Compose.ExchangeAll
import Hoot.Model.Uri

/-! What the flow holds at the end of an exchange beside its protocol state — the analysed request, the status
    and the Location it remembers (what `as_new_flow` is given), the recorded close reasons (what
    `must_close_connection` answers from) — is fixed by the exchange (request `r`, response head `H`, framing
    `b0`), not by the schedule it was run under. -/

def Remembers (r : AReq) (f : Flow) (o : RecvObs) : Prop :=
  f.call.req = r ∧ (o.faults = 0 → ∀ h, o.head = some h → f.location = lastLocation h.fields ∧ f.status = some h.status)

theorem read_req (c : CallSt) (w : Bytes) (cap : Nat) : (c.read w cap).1.req = c.req := by
  unfold CallSt.read
  repeat' split
  all_goals rfl

theorem tryResponse_req (hack : Bool) (c : CallSt) (w : Bytes) : (callTryResponse hack c w).1.req = c.req := by
  unfold callTryResponse
  repeat' split
  all_goals rfl

theorem proceed_recv_frame (hack : Bool) (f : Flow) (h : f.st = .recvResponse ∨ f.st = .recvBody) :
    (f.step hack .proceed).1.call.req = f.call.req ∧ (f.step hack .proceed).1.location = f.location ∧
    (f.step hack .proceed).1.status = f.status := by
  rcases h with h | h
  · rw [flow_step_recvResponse h]
    unfold stepRecvResponse
    dsimp only
    repeat' split
    all_goals exact ⟨rfl, rfl, rfl⟩
  · rw [flow_step_recvBody h]
    unfold stepRecvBody
    dsimp only
    repeat' split
    all_goals exact ⟨rfl, rfl, rfl⟩

theorem resp_frame (hack : Bool) (f : Flow) (w : Bytes) :
    (stepRecvResponse hack f (.resp w)).1.call.req = f.call.req ∧
    (stepRecvResponse hack f (.resp w)).1.st = f.st ∧
    (∀ n rr, (stepRecvResponse hack f (.resp w)).2 = .resp n (some rr) →
       (stepRecvResponse hack f (.resp w)).1.location = lastLocation rr.fields ∧
       (stepRecvResponse hack f (.resp w)).1.status = some rr.status) ∧
    (∀ n, (stepRecvResponse hack f (.resp w)).2 = .resp n none →
       (stepRecvResponse hack f (.resp w)).1.location = f.location ∧
       (stepRecvResponse hack f (.resp w)).1.status = f.status) := by
  have hreq := tryResponse_req hack f.call w
  unfold stepRecvResponse
  dsimp only
  split
  · exact ⟨rfl, rfl, nofun, nofun⟩
  · generalize callTryResponse hack f.call w = q at hreq ⊢
    obtain ⟨c1, e | _ | ⟨used, r⟩⟩ := q
    · exact ⟨hreq, rfl, nofun, nofun⟩
    · exact ⟨hreq, rfl, nofun, fun _ _ => ⟨rfl, rfl⟩⟩
    · dsimp only at hreq ⊢
      split
      · -- an interim 100 while the flag is up is skipped
        exact ⟨hreq, rfl, nofun, fun _ _ => ⟨rfl, rfl⟩⟩
      · -- any other head: status and Location are stored before a close reason is recorded, fault or not
        repeat' split
        · exact ⟨hreq, rfl, nofun, nofun⟩
        · exact ⟨hreq, rfl, fun _ _ h => by cases h; exact ⟨rfl, rfl⟩, nofun⟩
        · exact ⟨hreq, rfl, fun _ _ h => by cases h; exact ⟨rfl, rfl⟩, nofun⟩

theorem bread_frame (f : Flow) (w : Bytes) (cap : Nat) :
    (stepRecvBody f (.bread w cap)).1.call.req = f.call.req ∧ (stepRecvBody f (.bread w cap)).1.st = f.st ∧
    (stepRecvBody f (.bread w cap)).1.location = f.location ∧ (stepRecvBody f (.bread w cap)).1.status = f.status := by
  have hreq := read_req f.call w cap
  unfold stepRecvBody
  dsimp only
  split
  · exact ⟨rfl, rfl, rfl, rfl⟩
  · generalize hq : f.call.read w cap = q at hreq
    obtain ⟨c, res⟩ := q
    cases res with
    | error e => exact ⟨hreq, rfl, rfl, rfl⟩
    | ok v => obtain ⟨i, o⟩ := v; exact ⟨hreq, rfl, rfl, rfl⟩

theorem recvStep_body_frame (hack : Bool) (stream : Bytes) (f : Flow) (o : RecvObs) (s : IoStep) (hst : f.st = .recvBody)
    {y : Flow × RecvObs} (hy : recvStep hack stream (f, o) s = y) :
    y.1.call.req = f.call.req ∧ y.1.location = f.location ∧ y.1.status = f.status ∧
    y.1.closeReasons = f.closeReasons ∧ y.2.head = o.head ∧ o.faults ≤ y.2.faults := by
  subst hy
  rw [recvStep_bread hst]
  obtain ⟨h1, h2, h3, h4⟩ := bread_frame f ((stream.drop o.consumed).take s.m) s.cap
  have h5 := stepRecvBody_reasons f (.bread ((stream.drop o.consumed).take s.m) s.cap)
  generalize stepRecvBody f (.bread ((stream.drop o.consumed).take s.m) s.cap) = q at h1 h2 h3 h4 h5 ⊢
  obtain ⟨f1, res⟩ := q
  cases res with
  | bytes n out =>
    dsimp only
    split
    · obtain ⟨p1, p2, p3⟩ := proceed_recv_frame hack f1 (Or.inr (h2.trans hst))
      refine ⟨p1.trans h1, p2.trans h3, p3.trans h4, ?_, rfl, Nat.le_refl _⟩
      rw [flow_step_recvBody (h2.trans hst), stepRecvBody_reasons]
      exact h5
    · exact ⟨h1, h3, h4, h5, rfl, Nat.le_refl _⟩
  | _ => exact ⟨h1, h3, h4, h5, rfl, Nat.le_succ _⟩

theorem recvStep_remembers {hack : Bool} {stream : Bytes} {r : AReq} {f : Flow} {o : RecvObs} {s : IoStep} (h : Remembers r f o) :
    Remembers r (recvStep hack stream (f, o) s).1 (recvStep hack stream (f, o) s).2 := by
  obtain ⟨hreq, hloc⟩ := h
  cases hst : f.st with
  | recvResponse =>
    rw [recvStep_resp hst]
    obtain ⟨h1, h2, h3, h4⟩ := resp_frame hack f ((stream.drop o.consumed).take s.m)
    generalize stepRecvResponse hack f (.resp ((stream.drop o.consumed).take s.m)) = q at h1 h2 h3 h4 ⊢
    obtain ⟨f1, res⟩ := q
    cases res with
    | resp n v =>
      cases v with
      | some rr =>
        -- a head is handed out: the flow has just stored its status and Location, and proceeding keeps them
        obtain ⟨hl, hs⟩ := h3 n rr rfl
        obtain ⟨p1, p2, p3⟩ := proceed_recv_frame hack f1 (Or.inl (h2.trans hst))
        refine ⟨p1.trans (h1.trans hreq), fun _ h hh => ?_⟩
        obtain rfl : rr = h := Option.some.inj hh
        exact ⟨p2.trans hl, p3.trans hs⟩
      | none =>
        obtain ⟨hl, hs⟩ := h4 n rfl
        refine ⟨h1.trans hreq, fun hf h hh => ?_⟩
        obtain ⟨a, b⟩ := hloc hf h hh
        exact ⟨hl.trans a, hs.trans b⟩
    | _ => exact ⟨h1.trans hreq, fun hf => absurd hf (Nat.succ_ne_zero _)⟩
  | recvBody =>
    obtain ⟨b1, b2, b3, _, b5, b6⟩ := recvStep_body_frame hack stream f o s hst rfl
    refine ⟨b1.trans hreq, fun hf h hh => ?_⟩
    rw [b2, b3]
    exact hloc (Nat.le_zero.mp (hf ▸ b6)) h (b5 ▸ hh)
  | _ =>
    have hid : recvStep hack stream (f, o) s = (f, o) := by
      unfold recvStep
      simp only [hst]
    rw [hid]
    exact ⟨hreq, hloc⟩

def XFrame (f0 : Flow) (r : AReq) (H : Head) (b0 : BPos) (x : Flow × SendObs × RecvObs) : Prop :=
  Remembers r x.1 x.2.2 ∧ (x.2.2.head = none → x.1.closeReasons = f0.closeReasons) ∧
  (x.2.2.head ≠ none → ReasonsSpec f0 H b0 x.1.closeReasons)

section
variable {f0 : Flow} {r : AReq} {H : Head} {b0 : BPos} {x : Flow × SendObs × RecvObs}

/-- the specification reads the starting flow's reasons only -/
theorem ReasonsSpec.congr {f : Flow} {l : List CloseReason} (h : ReasonsSpec f H b0 l) (e : f.closeReasons = f0.closeReasons) :
    ReasonsSpec f0 H b0 l := by
  unfold ReasonsSpec at h ⊢
  rw [← e]
  exact h

theorem XFrame.of_no_head (hreq : x.1.call.req = r) (hcr : x.1.closeReasons = f0.closeReasons) (ho : x.2.2.head = none) :
    XFrame f0 r H b0 x :=
  ⟨⟨hreq, fun _ h hh => by rw [ho] at hh; cases hh⟩, fun _ => hcr, fun hn => absurd ho hn⟩

theorem XFrame.outcome {d : Nat} (h : XFrame f0 r H b0 x) (ho : x.2.2 = (recvSpec H b0).shift d) :
    x.1.call.req = r ∧ x.1.location = lastLocation H.parsed.fields ∧ x.1.status = some H.codeVal ∧
    ReasonsSpec f0 H b0 x.1.closeReasons := by
  obtain ⟨⟨h1, h2⟩, _, h3⟩ := h
  obtain ⟨h4, h5⟩ := h2 (by rw [ho]; rfl) H.parsed (by rw [ho]; rfl)
  exact ⟨h1, h4, h5, h3 (by rw [ho]; exact fun h => by cases h)⟩

end

section
variable {hack : Bool} {f0 : Flow} {r : AReq} {wr0 : BodyWriter} {P : Bytes} {I H : Head} {b0 : BPos} {tail pre : Bytes}
  (X : XSetup hack f0 r wr0 P I H b0 pre)
include X

/-- `XFrame` is asked for on the receive side only: on the send side `XInv` itself says what the flow holds -/
theorem x_step_frame (x : Flow × SendObs × RecvObs) (s : IoStep)
    (h : XInv hack f0 r wr0 P H b0 tail pre x) (hsw : H.safeWin hack s.m) (hK : recvish x.1.st → XFrame f0 r H b0 x) :
    recvish (xStep hack P (pre ++ (H.enc ++ b0.enc ++ tail)) x s).1.st →
      XFrame f0 r H b0 (xStep hack P (pre ++ (H.enc ++ b0.enc ++ tail)) x s) := by
  cases h.stage with
  | @head f so hAB =>
    -- Prepare / SendRequest: the receive side is entered through `SendD`
    rcases hAB with hA | hB
    · rw [xStep_send (Or.inl (hA.1 ▸ X.send.hst))]
      intro hrv
      exact absurd (send_step_A hack f0 r wr0 P X.send f so s hA).1 (recvish_not_send hrv).2.1
    · rw [xStep_send (Or.inr (Or.inl hB.1))]
      intro hrv
      have hns := recvish_not_send hrv
      obtain ⟨hB' | hC | hD | ⟨h1, _, _⟩, _⟩ := send_step_B hack X.send s hB rfl
      · exact absurd hB'.1.1 hns.2.1
      · exact absurd hC.1 hns.2.2.1
      · exact XFrame.of_no_head hD.req hD.reasons rfl
      · exact absurd h1 hns.2.2.2
  | @await f so o hst h0 hA hp =>
    -- Await100: the flow stays there or enters SendBody
    rw [X.await_step hst h0 hA hp]
    intro hrv
    split at hrv
    · exact absurd rfl (recvish_not_send hrv).2.2.1
    · split at hrv <;> exact absurd hst (recvish_not_send hrv).2.2.2
  | @body f so o hC hp =>
    rw [xStep_send (Or.inr (Or.inr hC.1))]
    intro hrv
    obtain ⟨hC' | hD', _⟩ := send_step_C hack s hC rfl
    · exact absurd hC'.1.1 (recvish_not_send hrv).2.2.1
    · exact XFrame.of_no_head hD'.req hD'.reasons (pend_safe hp).2.2.2
  | @late f so hst hh haw h0 hnd hreq =>
    -- the interim 100 still to come in RecvResponse: the flow changes at most its await flag
    have hcr : f.closeReasons = f0.closeReasons := (hK (Or.inl hst)).2.1 rfl
    rw [X.pre_eq h0, xStep_recv (Or.inl hst), recvStep_interim X.int hst hh haw]
    intro _
    split <;> exact XFrame.of_no_head hreq hcr rfl
  | @recv f so o' f1 hw hoff S hri =>
    obtain ⟨hrem, hcr0, hsp⟩ := hK (hri.recvish S)
    rw [xStep_recv (hri.recvish S)]
    intro _
    refine ⟨recvStep_remembers hrem, ?_⟩
    rcases hri.head_cases with ⟨rfl, rfl⟩ | ⟨hst, hhead⟩ | ⟨hst, _⟩
    · have hcr : f.closeReasons = f0.closeReasons := hcr0 rfl
      rw [recvStep_shift]
      by_cases hm : s.m < H.enc.length
      · rw [recvStep_head_prefix tail S s hm hsw]
        exact ⟨fun _ => hcr, fun hn => absurd rfl hn⟩
      · obtain ⟨f2, hstep, hspec', _⟩ := recvStep_head_full tail S s (by omega)
        rw [hstep]
        exact ⟨(fun hn => by cases hn), fun _ => hspec'.congr hcr⟩
    · obtain ⟨_, _, _, h1, h2, _⟩ :=
        recvStep_body_frame hack (pre ++ (H.enc ++ b0.enc ++ tail)) f (o'.shift pre.length) s hst rfl
      have hoh : (o'.shift pre.length).head ≠ none := by show o'.head ≠ none; rw [hhead]; simp
      exact ⟨fun hn => absurd (h2 ▸ hn) hoh, fun _ => h1 ▸ hsp hoh⟩
    · rw [recvStep_done hack _ (f, _) s (terminal_done hst)]
      exact ⟨hcr0, hsp⟩

theorem x_run_frame (htail : b0.isClose = true → tail = []) (σ : List IoStep) (hσ : ∀ s ∈ σ, H.safeWin hack s.m) :
    recvish (xRun hack P (pre ++ (H.enc ++ b0.enc ++ tail)) f0 σ).1.st →
      XFrame f0 r H b0 (xRun hack P (pre ++ (H.enc ++ b0.enc ++ tail)) f0 σ) :=
  (foldl_invariant (Inv := fun x => XInv hack f0 r wr0 P H b0 tail pre x ∧ (recvish x.1.st → XFrame f0 r H b0 x))
    (fun x s hx hs => ⟨x_step_inv hack f0 r wr0 P I H b0 tail pre X htail x s hx.1 hs, x_step_frame X x s hx.1 hs hx.2⟩) σ _
    ⟨XStage.inv (.head (Or.inl ⟨rfl, rfl⟩)), fun hrv => absurd X.send.hst (recvish_not_send hrv).1⟩ hσ).2

theorem XSetup.done_frame (htail : b0.isClose = true → tail = []) {σ : List IoStep} (hσ : ∀ s ∈ σ, H.safeWin hack s.m)
    (hd : recvDone (xRun hack P (pre ++ (H.enc ++ b0.enc ++ tail)) f0 σ).1 = true) :
    (xRun hack P (pre ++ (H.enc ++ b0.enc ++ tail)) f0 σ).1.call.req = r ∧
    (xRun hack P (pre ++ (H.enc ++ b0.enc ++ tail)) f0 σ).1.location = lastLocation H.parsed.fields ∧
    (xRun hack P (pre ++ (H.enc ++ b0.enc ++ tail)) f0 σ).1.status = some H.codeVal ∧
    ReasonsSpec f0 H b0 (xRun hack P (pre ++ (H.enc ++ b0.enc ++ tail)) f0 σ).1.closeReasons :=
  (x_run_frame X htail σ hσ (Or.inr (Or.inr ((recvDone_iff _).mp hd)))).outcome
    ((X.run_inv htail hσ).outcome X.send.hst hd).2.2.1

theorem XSetup.next (htail : b0.isClose = true → tail = []) {σ : List IoStep} (hσ : ∀ s ∈ σ, H.safeWin hack s.m)
    (hd : recvDone (xRun hack P (pre ++ (H.enc ++ b0.enc ++ tail)) f0 σ).1 = true) (sameHost : Bool) :
    ((xRun hack P (pre ++ (H.enc ++ b0.enc ++ tail)) f0 σ).1.asNewFlow sameHost).2 =
      followRes r (lastLocation H.parsed.fields) (some H.codeVal) sameHost := by
  obtain ⟨h1, h2, h3, _⟩ := X.done_frame htail hσ hd
  rw [asNewFlow_res, h1, h2, h3]

end
