import Hoot.Compose.ExchangeAll

/-! An `Expect: 100-continue` request that the server answers with a final response and no interim 100: the outcome
    depends on the schedule in one respect only, whether the caller gave up waiting (and sent the body) before it
    looked at a decisive window of the response. -/

/-- the window length from which `try_read_100` (a parse with no header slots) decides about a final response
    `F`: the whole bare head, or the status line and the first field line -/
def decisiveLen (F : Head) : Nat :=
  match F.fields with
  | [] => F.enc.length
  | f :: _ => F.statusLine.length + f.enc.length

theorem decisiveLen_le (F : Head) : decisiveLen F ≤ F.enc.length := by
  unfold decisiveLen Head.enc
  cases hf : F.fields with
  | nil => simp
  | cons f fs => simp [encFields]

theorem resp_first_field_no_slot (F : Head) (hw : F.wf) (f : Field) (fs : List Field) (hfs : F.fields = f :: fs) (rest : Bytes') :
    parseResp 0 (F.statusLine ++ (f.enc ++ rest)) = .error .tooManyHeaders := by
  unfold parseResp
  rw [run_status F hw 0]
  exact run_field_no_slot (F.between 0 []) f (hw.fields f (by simp [hfs])) (Nat.not_lt_zero _) rest _

theorem await_window (F : Head) (hw : F.wf) (hc : 100 ≤ F.codeVal) (h100 : F.codeVal ≠ 100) (rest : Bytes) (m : Nat) :
    (m < decisiveLen F → tryParseResponse 0 ((F.enc ++ rest).take m) = .ok none) ∧
    (decisiveLen F ≤ m →
      (∃ u resp, tryParseResponse 0 ((F.enc ++ rest).take m) = .ok (some (u, resp)) ∧ resp.status ≠ 100) ∨
      tryParseResponse 0 ((F.enc ++ rest).take m) = .error (.api .httpParseTooManyHeaders)) := by
  cases hf : F.fields with
  | nil =>
    have hD : decisiveLen F = F.enc.length := by simp [decisiveLen, hf]
    rw [hD]
    constructor
    · intro hm
      rw [List.take_append_of_le_length (Nat.le_of_lt hm)]
      exact C05_prefix F hw 0 (by simp [hf]) m hm
    · intro hm
      rw [window_full _ _ _ hm]
      exact Or.inl ⟨_, _, C05_exact_bare F hw hf 0 hc _, h100⟩
  | cons f fs =>
    have hD : decisiveLen F = F.statusLine.length + f.enc.length := by simp [decisiveLen, hf]
    have hle := decisiveLen_le F
    rw [hD] at hle ⊢
    constructor
    · intro hm
      rw [List.take_append_of_le_length (by omega)]
      obtain ⟨st, hst⟩ := resp_inside_first_field F hw f fs hf 0 m hm
      exact tryParseResponse_more hst
    · intro hm
      have henc : F.enc ++ rest = F.statusLine ++ (f.enc ++ (encFields fs ++ [13, 10] ++ rest)) := by
        simp [Head.enc, hf, encFields, List.append_assoc]
      right
      unfold tryParseResponse
      -- the window holds the status line and the whole first field line
      rw [henc, window_full _ _ _ (by omega), window_full _ _ _ (by omega), resp_first_field_no_slot F hw f fs hf]

/-- the stages of `XInv` without an interim response to skip, and `refused`: the flow was refused the body while
    awaiting (head out, nothing of the payload), from where the caller proceeds to the response -/
inductive XInvR (hack : Bool) (f0 : Flow) (r : AReq) (wr0 : BodyWriter) (P : Bytes) (F : Head) (b0 : BPos) (tail : Bytes) :
    Flow × SendObs × RecvObs → Prop
  | head {f so} (h : SendA f0 f so ∨ SendB f0 r wr0 f so) : XInvR hack f0 r wr0 P F b0 tail (f, so, {})
  | await {f so} (hst : f.st = .await100) (haw : f.await100 = true) (hA : AwaitAt f0 r wr0 P f so) :
      XInvR hack f0 r wr0 P F b0 tail (f, so, {})
  | refused {f so} (hst : f.st = .await100) (hh : f.holder = .withBody) (hsb : f.shouldSendBody = false)
      (haw : f.await100 = false) (hnd : f.closeReasons.Nodup) (hreq : f.call.req = r) (hwire : so.wire = renderHead r)
      (hoff : so.off = 0) : XInvR hack f0 r wr0 P F b0 tail (f, so, {})
  | body {f so} (hC : SendC f0 r wr0 P f so) : XInvR hack f0 r wr0 P F b0 tail (f, so, {})
  | recv {f so o f1} (hw : (SendSpec r wr0 P so.wire ∧ so.off = P.length) ∨ (so.wire = renderHead r ∧ so.off = 0))
      (S : RecvSetup hack F b0 f1) (hri : RecvInv F b0 tail f1 f o) : XInvR hack f0 r wr0 P F b0 tail (f, so, o)

section
variable {hack : Bool} {P : Bytes} {f : Flow} {so : SendObs} {s : IoStep}

theorem xStep_await_final (hst : f.st = .await100) (haw : f.await100 = true) (hg : s.giveUp = false) (hn : f.closeReasons.Nodup)
    (F : Head) (hw : F.wf) (hc : 100 ≤ F.codeVal) (h100 : F.codeVal ≠ 100) (rest : Bytes) :
    xStep hack P (F.enc ++ rest) (f, so, {}) s = (f, so, {}) ∨
    ∃ l : List CloseReason, l.Nodup ∧
      xStep hack P (F.enc ++ rest) (f, so, {}) s = ({ f with await100 := false, closeReasons := l, shouldSendBody := false }, so, {}) := by
  rw [xStep_await hst, if_neg (by simp [haw, hg]), List.drop_zero]
  obtain ⟨hlo, hhi⟩ := await_window F hw hc h100 rest s.m
  by_cases hm : s.m < decisiveLen F
  · rw [C11_undecided f _ (hlo hm)]
    exact Or.inl rfl
  · have href : refuses ((F.enc ++ rest).take s.m) := hhi (Nat.le_of_not_lt hm)
    obtain ⟨l, hl, _, hr⟩ := refuse100_spec { f with await100 := false } hn
    rw [await_refused f _ href, hr]
    exact Or.inr ⟨l, hl, by simp [hst]⟩

theorem xStep_refused {stream : Bytes} {o : RecvObs} (hst : f.st = .await100) (hh : f.holder = .withBody)
    (hsb : f.shouldSendBody = false) (haw : f.await100 = false) :
    xStep hack P stream (f, so, o) s = ((enterRecvResponse f).1, so, o) := by
  rw [xStep_await hst, if_pos (by simp [haw]), stepAwait100_proceed, if_neg (by simp [hsb]), hh]

end

section
variable {hack : Bool} {f0 : Flow} {r : AReq} {wr0 : BodyWriter} {P : Bytes} {F : Head} {b0 : BPos} {tail : Bytes}
  (X : XSetupR hack f0 r wr0 P F b0) (htail : b0.isClose = true → tail = [])
include X htail

theorem x_step_invR (x : Flow × SendObs × RecvObs) (s : IoStep)
    (h : XInvR hack f0 r wr0 P F b0 tail x) (hsw : F.safeWin hack s.m) :
    XInvR hack f0 r wr0 P F b0 tail (xStep hack P (F.enc ++ b0.enc ++ tail) x s) := by
  have enter : ∀ {g : Flow} {go : SendObs}, SendD f0 r wr0 P g go → XInvR hack f0 r wr0 P F b0 tail (g, go, {}) := by
    intro g go ⟨hst, hh, hcr, hreq, hspec, hoff⟩
    exact .recv (Or.inl ⟨hspec, hoff⟩) ⟨hreq ▸ X.resp, hst, hh, hcr ▸ X.hnd⟩ (.init htail)
  cases h with
  | @head f so hAB =>
    rcases hAB with hA | hB
    · rw [xStep_send (Or.inl (hA.1 ▸ X.send.hst))]
      exact .head (Or.inr (send_step_A hack f0 r wr0 P X.send f so s hA))
    · rw [xStep_send (Or.inr (Or.inl hB.1))]
      obtain ⟨hB' | hC | hD | ⟨h1, h3, h4⟩, haw⟩ := send_step_B hack X.send s hB rfl
      · exact .head (Or.inr hB'.1)
      · exact .body hC
      · exact enter hD
      · exact .await h1 (haw.trans h3) h4
  | @await f so hst haw hA =>
    by_cases hgo : (!f.await100 || s.giveUp) = true
    · rw [xStep_giveUp hst hA hgo]
      exact .body (enter_body_inv hA)
    · have hg : s.giveUp = false := by simpa [haw] using hgo
      rw [List.append_assoc]
      rcases xStep_await_final hst haw hg (hA.reasons ▸ X.hnd) F X.resp.hw X.resp.hc X.resp.h100 (b0.enc ++ tail)
        with hstep | ⟨l, hl, hstep⟩
      · rw [hstep]
        exact .await hst haw hA
      · rw [hstep]
        exact .refused hst hA.holder rfl rfl hl hA.req hA.wire hA.off
  | @refused f so hst hh hsb haw hnd hreq hwire hoff =>
    rw [xStep_refused hst hh hsb haw]
    exact .recv (f1 := (enterRecvResponse f).1) (Or.inr ⟨hwire, hoff⟩) ⟨hreq ▸ X.resp, rfl, rfl, hnd⟩ (.init htail)
  | @body f so hC =>
    rw [xStep_send (Or.inr (Or.inr hC.1))]
    obtain ⟨hC' | hD', _⟩ := send_step_C hack s hC rfl
    · exact .body hC'.1
    · exact enter hD'
  | @recv f so o f1 hw S hri =>
    rw [xStep_recv (hri.recvish S)]
    exact .recv hw S (recv_step_inv hack F b0 tail f1 S f o s hri hsw)

theorem x_run_invR (σ : List IoStep) (hσ : ∀ s ∈ σ, F.safeWin hack s.m) :
    XInvR hack f0 r wr0 P F b0 tail (xRun hack P (F.enc ++ b0.enc ++ tail) f0 σ) :=
  foldl_invariant (x_step_invR X htail) σ _ (.head (Or.inl ⟨rfl, rfl⟩)) hσ

omit htail in
theorem XInvR.outcome {x : Flow × SendObs × RecvObs} (h : XInvR hack f0 r wr0 P F b0 tail x) (hd : recvDone x.1 = true) :
    x.2.2 = recvSpec F b0 ∧ x.1.st = terminalSt F ∧ (F.enc ++ b0.enc ++ tail).drop x.2.2.consumed = tail ∧
    ((SendSpec r wr0 P x.2.1.wire ∧ x.2.1.off = P.length) ∨ (x.2.1.wire = renderHead r ∧ x.2.1.off = 0)) := by
  cases h with
  | head hAB =>
    rcases hAB with hA | hB
    · simp [recvDone, hA.1, X.send.hst] at hd
    · simp [recvDone, hB.1] at hd
  | await h => simp [recvDone, h] at hd
  | refused h => simp [recvDone, h] at hd
  | body hC => simp [recvDone, hC.1] at hd
  | recv hw S hri =>
    obtain ⟨h1, h2⟩ := recvSpec_of_done S.hst hri hd
    exact ⟨h1, h2, h1 ▸ drop_recvSpec F b0 tail, hw⟩

end

/-- **C01 (refused Expect, outcome).** The request carries `Expect: 100-continue` and a body; the server
    answers with a final response (any status but 100) and no interim one. Every complete schedule consumes
    exactly the response message, hands out its parsed head and whole payload, and ends in the state the
    status dictates; and the request that went out is one of exactly two: the head followed by the whole
    body (`SendSpec`; the caller gave up waiting before it looked at a decisive window), or the head alone
    with nothing of the payload accepted (the response was seen first: `try_read_100` refused). -/
theorem C01_refused_outcome (hack : Bool) (f0 : Flow) (r : AReq) (wr0 : BodyWriter) (P : Bytes) (F : Head) (b0 : BPos) (tail : Bytes)
    (X : XSetupR hack f0 r wr0 P F b0) (htail : b0.isClose = true → tail = []) (σ : List IoStep)
    (hσ : ∀ s ∈ σ, F.safeWin hack s.m)
    (hd : recvDone (xRun hack P (F.enc ++ b0.enc ++ tail) f0 σ).1 = true) :
    (xRun hack P (F.enc ++ b0.enc ++ tail) f0 σ).2.2 = recvSpec F b0 ∧
    (xRun hack P (F.enc ++ b0.enc ++ tail) f0 σ).1.st = terminalSt F ∧
    (F.enc ++ b0.enc ++ tail).drop (xRun hack P (F.enc ++ b0.enc ++ tail) f0 σ).2.2.consumed = tail ∧
    ((SendSpec r wr0 P (xRun hack P (F.enc ++ b0.enc ++ tail) f0 σ).2.1.wire ∧
        (xRun hack P (F.enc ++ b0.enc ++ tail) f0 σ).2.1.off = P.length) ∨
     ((xRun hack P (F.enc ++ b0.enc ++ tail) f0 σ).2.1.wire = renderHead r ∧
        (xRun hack P (F.enc ++ b0.enc ++ tail) f0 σ).2.1.off = 0)) :=
  XInvR.outcome X (x_run_invR X htail σ hσ) hd

/-- **C01 (refused Expect, independence).** Any two complete schedules observe the same response and end
    in the same state; they can differ only in whether the body went out. -/
theorem C01_refused_independent (hack : Bool) (f0 : Flow) (r : AReq) (wr0 : BodyWriter) (P : Bytes) (F : Head) (b0 : BPos) (tail : Bytes)
    (X : XSetupR hack f0 r wr0 P F b0) (htail : b0.isClose = true → tail = []) (σ₁ σ₂ : List IoStep)
    (hσ₁ : ∀ s ∈ σ₁, F.safeWin hack s.m) (hσ₂ : ∀ s ∈ σ₂, F.safeWin hack s.m)
    (h1 : recvDone (xRun hack P (F.enc ++ b0.enc ++ tail) f0 σ₁).1 = true)
    (h2 : recvDone (xRun hack P (F.enc ++ b0.enc ++ tail) f0 σ₂).1 = true) :
    (xRun hack P (F.enc ++ b0.enc ++ tail) f0 σ₁).2.2 = (xRun hack P (F.enc ++ b0.enc ++ tail) f0 σ₂).2.2 ∧
    (xRun hack P (F.enc ++ b0.enc ++ tail) f0 σ₁).1.st = (xRun hack P (F.enc ++ b0.enc ++ tail) f0 σ₂).1.st := by
  obtain ⟨a1, a2, _⟩ := C01_refused_outcome hack f0 r wr0 P F b0 tail X htail σ₁ hσ₁ h1
  obtain ⟨b1, b2, _⟩ := C01_refused_outcome hack f0 r wr0 P F b0 tail X htail σ₂ hσ₂ h2
  exact ⟨by rw [a1, b1], by rw [a2, b2]⟩
