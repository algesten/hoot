import Hoot.Compose.Exchange

/-- whether the interim response is still to come -/
def Pend (f0 : Flow) (pre : Bytes) (aw : Bool) (o : RecvObs) : Prop :=
  (aw = true ∧ f0.await100 = true ∧ o = {}) ∨ (aw = false ∧ o = ({} : RecvObs).shift pre.length)

/-- The stages of an exchange under `xRun` (named by `XStage`). Awaiting the `100` and writing the body, `Pend` says
    whether the interim response has been consumed; the fourth is request out and flow in `RecvResponse` with the flag
    still up: the interim response comes late and is skipped there; the last is `RecvInv`, counted behind the
    `pre.length` interim bytes. -/
def XInv (hack : Bool) (f0 : Flow) (r : AReq) (wr0 : BodyWriter) (P : Bytes) (H : Head) (b0 : BPos) (tail pre : Bytes)
    (x : Flow × SendObs × RecvObs) : Prop :=
  ((SendA f0 x.1 x.2.1 ∨ SendB f0 r wr0 x.1 x.2.1) ∧ x.2.2 = {}) ∨
  (x.1.st = .await100 ∧ f0.await100 = true ∧ AwaitAt f0 r wr0 P x.1 x.2.1 ∧ Pend f0 pre x.1.await100 x.2.2) ∨
  (SendC f0 r wr0 P x.1 x.2.1 ∧ Pend f0 pre x.1.await100 x.2.2) ∨
  (x.1.st = .recvResponse ∧ x.1.holder = .recvResponse ∧ x.1.await100 = true ∧ f0.await100 = true ∧ x.2.2 = {} ∧
     x.1.closeReasons.Nodup ∧ x.1.call.req = r ∧ SendSpec r wr0 P x.2.1.wire ∧ x.2.1.off = P.length) ∨
  (SendSpec r wr0 P x.2.1.wire ∧ x.2.1.off = P.length ∧
     ∃ (f1 : Flow) (o' : RecvObs), RecvSetup hack H b0 f1 ∧ x.2.2 = o'.shift pre.length ∧ RecvInv H b0 tail f1 x.1 o')

section
variable {hack : Bool} {P stream : Bytes} {f : Flow} {so : SendObs} {o : RecvObs} {s : IoStep}

theorem xStep_send (h : f.st = .prepare ∨ f.st = .sendRequest ∨ f.st = .sendBody) :
    xStep hack P stream (f, so, o) s = ((sendStep hack P (f, so) s).1, (sendStep hack P (f, so) s).2, o) := by
  unfold xStep
  rcases h with e | e | e <;> simp only [e]

theorem xStep_recv (h : recvish f.st) :
    xStep hack P stream (f, so, o) s = ((recvStep hack stream (f, o) s).1, so, (recvStep hack stream (f, o) s).2) := by
  unfold xStep recvStep
  rcases h with e | e | e | e <;> simp only [e]

theorem xStep_await (hst : f.st = .await100) :
    xStep hack P stream (f, so, o) s =
      if !f.await100 || s.giveUp then ((stepAwait100 f .proceed).1, so, o)
      else
        match stepAwait100 f (.read100 ((stream.drop o.consumed).take s.m)) with
        | (f1, .count n) => (f1, so, { o with consumed := o.consumed + n })
        | (f1, _) => (f1, so, { o with faults := o.faults + 1 }) := by
  unfold xStep
  simp only [hst]
  rw [flow_step_await100 hst, flow_step_await100 hst]
  rfl

theorem xStep_giveUp {f0 : Flow} {r : AReq} {wr0 : BodyWriter} (hst : f.st = .await100) (hA : AwaitAt f0 r wr0 P f so)
    (hgo : (!f.await100 || s.giveUp) = true) :
    xStep hack P stream (f, so, o) s = ({ f with st := .sendBody }, so, o) := by
  rw [xStep_await hst, if_pos hgo, stepAwait100_proceed, if_pos hA.sendBody, enterSendBody_of_analyzed hA.analyzed]

theorem xStep_await_interim {I : Head} (hI : Interim I) (rest : Bytes) (hst : f.st = .await100) (haw : f.await100 = true)
    (hg : s.giveUp = false) (hsb : f.shouldSendBody = true) :
    xStep hack P (I.enc ++ rest) (f, so, {}) s =
      if s.m < I.enc.length then (f, so, {}) else ({ f with await100 := false }, so, ({} : RecvObs).shift I.enc.length) := by
  rw [xStep_await hst, if_neg (by simp [haw, hg]), List.drop_zero]
  by_cases hm : s.m < I.enc.length
  · rw [if_pos hm, List.take_append_of_le_length (Nat.le_of_lt hm), C11_undecided_bare f I hI.hw hI.hf s.m hm]
  · rw [if_neg hm, window_full _ _ _ (Nat.le_of_not_lt hm), C11_continue f I hI.hw hI.hf hI.hc hsb]
    rfl

end

theorem pend_safe {f0 : Flow} {pre : Bytes} {aw : Bool} {o : RecvObs} (h : Pend f0 pre aw o) :
    o.faults = 0 ∧ o.consumed ≤ pre.length ∧ o.body = [] ∧ o.head = none := by
  rcases h with ⟨_, _, rfl⟩ | ⟨_, rfl⟩
  · exact ⟨rfl, Nat.zero_le _, rfl, rfl⟩
  · exact ⟨rfl, by simp [RecvObs.shift], rfl, rfl⟩

theorem pend_up {f0 : Flow} {pre : Bytes} {aw : Bool} {o : RecvObs} (h : Pend f0 pre aw o) (ha : aw = true) : o = {} := by
  rcases h with ⟨_, _, h⟩ | ⟨h, _⟩
  · exact h
  · rw [ha] at h; cases h

/-- the five disjuncts of `XInv` by name -/
inductive XStage (hack : Bool) (f0 : Flow) (r : AReq) (wr0 : BodyWriter) (P : Bytes) (H : Head) (b0 : BPos) (tail pre : Bytes) :
    Flow × SendObs × RecvObs → Prop
  | head {f so} (h : SendA f0 f so ∨ SendB f0 r wr0 f so) : XStage hack f0 r wr0 P H b0 tail pre (f, so, {})
  | await {f so o} (hst : f.st = .await100) (h0 : f0.await100 = true) (hA : AwaitAt f0 r wr0 P f so)
      (hp : Pend f0 pre f.await100 o) : XStage hack f0 r wr0 P H b0 tail pre (f, so, o)
  | body {f so o} (hC : SendC f0 r wr0 P f so) (hp : Pend f0 pre f.await100 o) :
      XStage hack f0 r wr0 P H b0 tail pre (f, so, o)
  | late {f so} (hst : f.st = .recvResponse) (hh : f.holder = .recvResponse) (haw : f.await100 = true)
      (h0 : f0.await100 = true) (hnd : f.closeReasons.Nodup) (hreq : f.call.req = r) (hw : SendSpec r wr0 P so.wire)
      (hoff : so.off = P.length) : XStage hack f0 r wr0 P H b0 tail pre (f, so, {})
  | recv {f so o' f1} (hw : SendSpec r wr0 P so.wire) (hoff : so.off = P.length) (S : RecvSetup hack H b0 f1)
      (hri : RecvInv H b0 tail f1 f o') : XStage hack f0 r wr0 P H b0 tail pre (f, so, o'.shift pre.length)

section
variable {hack : Bool} {f0 : Flow} {r : AReq} {wr0 : BodyWriter} {P : Bytes} {I H : Head} {b0 : BPos} {tail pre : Bytes}

theorem XInv.stage {x : Flow × SendObs × RecvObs} (h : XInv hack f0 r wr0 P H b0 tail pre x) :
    XStage hack f0 r wr0 P H b0 tail pre x := by
  obtain ⟨f, so, o⟩ := x
  dsimp only [XInv] at h
  rcases h with ⟨hAB, rfl⟩ | ⟨hst, h0, hA, hp⟩ | ⟨hC, hp⟩ | ⟨hst, hh, haw, h0, rfl, hnd, hreq, hw, hoff⟩ | ⟨hw, hoff, f1, o', S, rfl, hri⟩
  · exact .head hAB
  · exact .await hst h0 hA hp
  · exact .body hC hp
  · exact .late hst hh haw h0 hnd hreq hw hoff
  · exact .recv hw hoff S hri

theorem XStage.inv {x : Flow × SendObs × RecvObs} (h : XStage hack f0 r wr0 P H b0 tail pre x) :
    XInv hack f0 r wr0 P H b0 tail pre x := by
  cases h with
  | head hAB => exact Or.inl ⟨hAB, rfl⟩
  | await hst h0 hA hp => exact Or.inr (Or.inl ⟨hst, h0, hA, hp⟩)
  | body hC hp => exact Or.inr (Or.inr (Or.inl ⟨hC, hp⟩))
  | late hst hh haw h0 hnd hreq hw hoff => exact Or.inr (Or.inr (Or.inr (Or.inl ⟨hst, hh, haw, h0, rfl, hnd, hreq, hw, hoff⟩)))
  | recv hw hoff S hri => exact Or.inr (Or.inr (Or.inr (Or.inr ⟨hw, hoff, _, _, S, rfl, hri⟩)))

theorem XInv.outcome {x : Flow × SendObs × RecvObs} (h : XInv hack f0 r wr0 P H b0 tail pre x) (h0 : f0.st = .prepare)
    (hd : recvDone x.1 = true) :
    SendSpec r wr0 P x.2.1.wire ∧ x.2.1.off = P.length ∧ x.2.2 = (recvSpec H b0).shift pre.length ∧
    x.1.st = terminalSt H ∧ (pre ++ (H.enc ++ b0.enc ++ tail)).drop x.2.2.consumed = tail := by
  cases h.stage with
  | head hAB =>
    rcases hAB with hA | hB
    · simp [recvDone, hA.1, h0] at hd
    · simp [recvDone, hB.1] at hd
  | await hst => simp [recvDone, hst] at hd
  | body hC => simp [recvDone, hC.1] at hd
  | late hst => simp [recvDone, hst] at hd
  | @recv f so o' f1 hw hoff S hri =>
    obtain ⟨rfl, h2⟩ := recvSpec_of_done S.hst hri hd
    exact ⟨hw, hoff, rfl, h2, (drop_shift pre _ _).trans (drop_recvSpec H b0 tail)⟩

variable (X : XSetup hack f0 r wr0 P I H b0 pre)
include X

theorem XSetup.pre_eq (h0 : f0.await100 = true) : pre = I.enc := by
  rcases X.hpre with ⟨_, h⟩ | ⟨h, _⟩
  · exact h
  · rw [h0] at h; cases h

theorem pend_init : Pend f0 pre f0.await100 {} := by
  rcases X.hpre with ⟨h1, _⟩ | ⟨h1, rfl⟩
  · exact Or.inl ⟨h1, h1, rfl⟩
  · exact Or.inr ⟨h1, rfl⟩

theorem XSetup.await_step {f : Flow} {so : SendObs} {o : RecvObs} {s : IoStep} {rest : Bytes} (hst : f.st = .await100)
    (h0 : f0.await100 = true) (hA : AwaitAt f0 r wr0 P f so) (hp : Pend f0 pre f.await100 o) :
    xStep hack P (pre ++ rest) (f, so, o) s =
      if (!f.await100 || s.giveUp) = true then ({ f with st := .sendBody }, so, o)
      else if s.m < pre.length then (f, so, o)
      else ({ f with await100 := false }, so, ({} : RecvObs).shift pre.length) := by
  by_cases hgo : (!f.await100 || s.giveUp) = true
  · rw [if_pos hgo]
    exact xStep_giveUp hst hA hgo
  · obtain ⟨hawt, hg⟩ : f.await100 = true ∧ s.giveUp = false := by simpa using hgo
    rw [if_neg hgo, pend_up hp hawt, X.pre_eq h0]
    exact xStep_await_interim X.int rest hst hawt hg hA.sendBody

theorem x_enter_recv (htail : b0.isClose = true → tail = []) {f : Flow} {so : SendObs} {o : RecvObs}
    (hD : SendD f0 r wr0 P f so) (hp : Pend f0 pre f.await100 o) : XInv hack f0 r wr0 P H b0 tail pre (f, so, o) := by
  obtain ⟨hst, hh, hcr, hreq, hspec, hoff⟩ := hD
  rcases hp with ⟨h1, h2, rfl⟩ | ⟨h1, rfl⟩
  · exact XStage.inv (.late hst hh h1 h2 (hcr ▸ X.hnd) hreq hspec hoff)
  · exact XStage.inv (.recv hspec hoff ⟨hreq ▸ X.resp, hst, hh, hcr ▸ X.hnd⟩ (.init htail))

end

theorem x_step_inv (hack : Bool) (f0 : Flow) (r : AReq) (wr0 : BodyWriter) (P : Bytes) (I H : Head) (b0 : BPos) (tail pre : Bytes)
    (X : XSetup hack f0 r wr0 P I H b0 pre) (htail : b0.isClose = true → tail = []) (x : Flow × SendObs × RecvObs) (s : IoStep)
    (h : XInv hack f0 r wr0 P H b0 tail pre x) (hsw : H.safeWin hack s.m) :
    XInv hack f0 r wr0 P H b0 tail pre (xStep hack P (pre ++ (H.enc ++ b0.enc ++ tail)) x s) := by
  cases h.stage with
  | @head f so hAB =>
    rcases hAB with hA | hB
    · rw [xStep_send (Or.inl (hA.1 ▸ X.send.hst))]
      exact XStage.inv (.head (Or.inr (send_step_A hack f0 r wr0 P X.send f so s hA)))
    · rw [xStep_send (Or.inr (Or.inl hB.1))]
      obtain ⟨hnext, haw⟩ := send_step_B hack X.send s hB rfl
      have hp : Pend f0 pre (sendStep hack P (f, so) s).1.await100 {} := haw ▸ pend_init X
      rcases hnext with hB' | hC | hD | ⟨h1, h3, h4⟩
      · exact XStage.inv (.head (Or.inr hB'.1))
      · exact XStage.inv (.body hC hp)
      · exact x_enter_recv X htail hD hp
      · exact XStage.inv (.await h1 h3 h4 hp)
  | @await f so o hst h0 hA hp =>
    rw [X.await_step hst h0 hA hp]
    split
    · exact XStage.inv (.body (enter_body_inv hA) hp)
    · split
      · exact XStage.inv (.await hst h0 hA hp)
      · exact XStage.inv (.await hst h0 hA (Or.inr ⟨rfl, rfl⟩))
  | @body f so o hC hp =>
    rw [xStep_send (Or.inr (Or.inr hC.1))]
    obtain ⟨hC' | hD', haw⟩ := send_step_C hack s hC rfl
    · exact XStage.inv (.body hC'.1 (haw ▸ hp))
    · exact x_enter_recv X htail hD' (haw ▸ hp)
  | @late f so hst hh haw h0 hnd hreq hspec hoff =>
    rw [X.pre_eq h0, xStep_recv (Or.inl hst), recvStep_interim X.int hst hh haw]
    split
    · exact XStage.inv (.late hst hh haw h0 hnd hreq hspec hoff)
    · exact XStage.inv (.recv hspec hoff (f1 := { f with await100 := false }) ⟨hreq ▸ X.resp, hst, hh, hnd⟩
        (.init htail))
  | @recv f so o' f1 hw hoff S hri =>
    rw [xStep_recv (hri.recvish S), recvStep_shift]
    exact XStage.inv (.recv hw hoff S (recv_step_inv hack H b0 tail f1 S f o' s hri hsw))

section
variable {hack : Bool} {f0 : Flow} {r : AReq} {wr0 : BodyWriter} {P : Bytes} {I H : Head} {b0 : BPos} {tail pre : Bytes}
  (X : XSetup hack f0 r wr0 P I H b0 pre) (htail : b0.isClose = true → tail = [])
include X htail

theorem XSetup.run_inv {σ : List IoStep} (hσ : ∀ s ∈ σ, H.safeWin hack s.m) :
    XInv hack f0 r wr0 P H b0 tail pre (xRun hack P (pre ++ (H.enc ++ b0.enc ++ tail)) f0 σ) :=
  foldl_invariant (x_step_inv hack f0 r wr0 P I H b0 tail pre X htail) σ _
    (XStage.inv (.head (Or.inl ⟨rfl, rfl⟩))) hσ

end

theorem x_run_inv (hack : Bool) (f0 : Flow) (r : AReq) (wr0 : BodyWriter) (P : Bytes) (I H : Head) (b0 : BPos) (tail pre : Bytes)
    (X : XSetup hack f0 r wr0 P I H b0 pre) (htail : b0.isClose = true → tail = []) (σ : List IoStep)
    (hσ : ∀ s ∈ σ, H.safeWin hack s.m) :
    XInv hack f0 r wr0 P H b0 tail pre (xRun hack P (pre ++ (H.enc ++ b0.enc ++ tail)) f0 σ) :=
  X.run_inv htail hσ

/-- Work left: head lines, payload bytes, server bytes (`T`: interim response and message), plus a rank of the state
    that makes every edge of the graph a descent: the receive states are worth at most `T + 1`, so every send
    state carries `T + 2`, and on top of it `SendBody` 2, `Await100` 3 (and 1 for the flag), `SendRequest` 5,
    `Prepare` 6 — each above whatever the states it leads to can add. The whole is at most
    `head lines + |P| + T + 8` (`xMeasure_le`); `foldl_reaches` asks for strictly more steps, hence the `+ 9` of
    `C01_exchange_live`. -/
def xMeasure (r : AReq) (P : Bytes) (T : Nat) (x : Flow × SendObs × RecvObs) : Nat :=
  match x.1.st with
  | .prepare => (headUnits r).length + P.length + 6 + (T + 2)
  | .sendRequest => ((headUnits r).length - headPos x.1.call.analyzeRequest.1) + P.length + 5 + (T + 2)
  | .await100 => (if x.1.await100 then 1 else 0) + P.length + 3 + (T + 2)
  | .sendBody => (P.length - x.2.1.off) + 2 + (T + 2)
  | .recvResponse => 1 + (T - x.2.2.consumed)
  | .recvBody => T - x.2.2.consumed
  | _ => 0

theorem pend_consumed (f0 : Flow) (pre : Bytes) (aw : Bool) (o : RecvObs) (h : Pend f0 pre aw o) : o.consumed ≤ pre.length :=
  (pend_safe h).2.1

theorem xMeasure_recv {r : AReq} {P : Bytes} {d t : Nat} {f : Flow} {so : SendObs} {o : RecvObs} (h : recvish f.st) :
    xMeasure r P (d + t) (f, so, o.shift d) = recvMeasure t (f, o) := by
  rcases h with e | e | e | e <;> simp only [xMeasure, recvMeasure, e, RecvObs.shift] <;> omega

theorem x_step_progress (hack : Bool) (f0 : Flow) (r : AReq) (wr0 : BodyWriter) (P : Bytes) (I H : Head) (b0 : BPos) (tail pre : Bytes)
    (X : XSetup hack f0 r wr0 P I H b0 pre) (htail : b0.isClose = true → tail = []) (x : Flow × SendObs × RecvObs) (s : IoStep)
    (h : XInv hack f0 r wr0 P H b0 tail pre x)
    (hfull : s.full r (pre.length + (H.enc.length + b0.enc.length))) :
    recvDone (xStep hack P (pre ++ (H.enc ++ b0.enc ++ tail)) x s).1 = true ∨
    xMeasure r P (pre.length + (H.enc.length + b0.enc.length)) (xStep hack P (pre ++ (H.enc ++ b0.enc ++ tail)) x s) <
      xMeasure r P (pre.length + (H.enc.length + b0.enc.length)) x := by
  obtain ⟨hm, hcap, hbig⟩ := hfull
  cases h.stage with
  | @head f so hAB =>
    -- Prepare / SendRequest: the next state is later, or the head writer has advanced
    right
    rcases hAB with hA | hB
    · have hst : f.st = .prepare := hA.1 ▸ X.send.hst
      rw [xStep_send (Or.inl hst)]
      simp only [xMeasure, (send_step_A hack f0 r wr0 P X.send f so s hA).1, hst]
      omega
    · rw [xStep_send (Or.inr (Or.inl hB.1))]
      obtain ⟨⟨hB', hlt⟩ | hC | hD | ⟨h1, _, _⟩, _⟩ := send_step_B hack X.send s hB rfl
      · have hpos' := hB'.headAt.pos_lt
        have := hlt hbig
        simp only [xMeasure, hB'.1, hB.1]
        omega
      · simp only [xMeasure, hC.1, hB.1]
        omega
      · simp only [xMeasure, hD.st, hB.1]
        omega
      · simp only [xMeasure, h1, hB.1]
        split <;> omega
  | @await f so o hst h0 hA hp =>
    -- Await100: the caller proceeds, or the whole interim 100 is there and is consumed
    right
    rw [X.await_step hst h0 hA hp]
    by_cases hgo : (!f.await100 || s.giveUp) = true
    · rw [if_pos hgo]
      simp only [xMeasure, hst]
      split <;> omega
    · obtain ⟨hawt, _⟩ : f.await100 = true ∧ s.giveUp = false := by simpa using hgo
      rw [if_neg hgo, if_neg (by omega)]
      simp only [xMeasure, hst, hawt]
      simp
  | @body f so o hC hp =>
    -- SendBody: more of the payload is accepted, or the body is finished
    right
    rw [xStep_send (Or.inr (Or.inr hC.1))]
    obtain ⟨⟨hC', hlt⟩ | hD', _⟩ := send_step_C hack s hC rfl
    · have hle := (sendC_wire hC').2
      have := hlt hcap
      simp only [xMeasure, hC'.1, hC.1]
      omega
    · simp only [xMeasure, hD'.st, hC.1]
      omega
  | @late f so hst hh haw h0 =>
    -- the interim 100 still to come in RecvResponse: it is there and is consumed
    right
    have hIpos := I.enc_pos
    have hpre := X.pre_eq h0
    subst hpre
    rw [xStep_recv (Or.inl hst), recvStep_interim X.int hst hh haw, if_neg (by omega)]
    simp only [xMeasure, hst, RecvObs.shift]
    show 1 + (_ - (0 + I.enc.length)) < 1 + (_ - 0)
    omega
  | @recv f so o' f1 hw hoff S hri =>
    have hm' : H.enc.length + b0.enc.length ≤ s.m := by omega
    obtain ⟨hinv, hprog⟩ := recv_step tail S s hri (H.safeWin_full hack s.m (by omega)) rfl
    rw [xStep_recv (hri.recvish S), recvStep_shift, xMeasure_recv (hinv.recvish S), xMeasure_recv (hri.recvish S)]
    exact hprog hm' (by omega)

theorem xStep_done (hack : Bool) (P stream : Bytes) (x : Flow × SendObs × RecvObs) (s : IoStep) (h : recvDone x.1 = true) :
    xStep hack P stream x s = x := by
  unfold xStep
  rcases (recvDone_iff x.1).mp h with e | e <;> simp only [e]

theorem xMeasure_le (r : AReq) (P : Bytes) (T : Nat) (x : Flow × SendObs × RecvObs) :
    xMeasure r P T x ≤ (headUnits r).length + P.length + T + 8 := by
  unfold xMeasure
  split <;> (try split) <;> omega
