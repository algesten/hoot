import Hoot.Props.C05
import Hoot.Props.C07
import Hoot.Props.C08
import Hoot.Compose.ExchangeSend
import Hoot.Proofs.Fold
import Hoot.Props.C11

open V2

theorem BPos.reader_eq_close (b : BPos) : b.reader = .close ↔ b.isClose = true := by
  cases b <;> simp [BPos.reader, BPos.isClose]

/-- the left-hand side is the test the caller's loop (`recvStep`) makes after a body read -/
theorem BPos.loop_done (b : BPos) (tail : Bytes) (hb : b.good) (ht : b.isClose = true → tail = []) :
    ((b.isClose || readerEnded b.reader) && (!b.isClose || (b.enc ++ tail).isEmpty)) = b.enc.isEmpty := by
  cases b with
  | none => rfl
  | len d => cases d <;> rfl
  | chunk r =>
    rw [Bool.eq_iff_iff]
    simp [BPos.isClose, BPos.reader, BPos.enc, readerEnded, rem_state_ended_iff r hb.2]
  | close d => simp [BPos.isClose, BPos.enc, ht rfl]

theorem BPos.reader_not_trailer (b : BPos) (hb : b.good) : b.reader ≠ .chunked .trailer := by
  cases b with
  | none => simp [BPos.reader]
  | len d => simp [BPos.reader]
  | close d => simp [BPos.reader]
  | chunk r =>
    simp only [BPos.reader]
    intro e
    have : r.state = .trailer := by injection e
    cases r <;> simp [Rem.state] at this hb
    exact hb.2

theorem BPos.payload_nil (b : BPos) (hb : b.good) (he : b.enc = []) : b.payload = [] := by
  cases b with
  | none => rfl
  | len d => exact he
  | close d => exact he
  | chunk r =>
    have hs : r.state = .ended := (rem_state_ended_iff r hb.2).mpr he
    cases r <;> simp [Rem.state] at hs
    rfl

theorem BPos.enc_nil_of_noBody (b : BPos) (h : needResponseBody (some b.reader) = false) : b.enc = [] := by
  cases b with
  | none => rfl
  | len d => cases d <;> simp [needResponseBody, BPos.reader, BPos.enc] at h ⊢
  | chunk r => simp [needResponseBody, BPos.reader] at h
  | close d => simp [needResponseBody, BPos.reader] at h

theorem copy_window (d tail : Bytes) (m cap : Nat) {k : Nat}
    (hk : k = min (min ((d ++ tail).take m).length cap) d.length) :
    ((d ++ tail).take m).take k = d.take k ∧ k ≤ d.length ∧ (d.length ≤ m → 1 ≤ cap → d ≠ [] → 0 < k) := by
  have hwl : ((d ++ tail).take m).length = min m (d.length + tail.length) := by simp
  refine ⟨?_, by omega, fun _ _ h3 => ?_⟩
  · rw [List.take_take, Nat.min_eq_left (by omega), List.take_append_of_le_length (by omega)]
  · have := List.length_pos_iff.mpr h3
    omega

theorem body_step (c : CallSt) (b : BPos) (hb : b.good) (hr : c.reader = some b.reader) (tail : Bytes) (m cap : Nat)
    (ht : b.isClose = true → tail = []) :
    ∃ (b' : BPos) (n : Nat) (out : Bytes),
      c.read ((b.enc ++ tail).take m) cap = ({ c with reader := some b'.reader }, .ok (n, out)) ∧
      b'.good ∧ n ≤ b.enc.length ∧ b.enc.drop n = b'.enc ∧ b.payload = out ++ b'.payload ∧
      b'.isClose = b.isClose ∧
      (b.enc.length ≤ m → 1 ≤ cap → b.enc ≠ [] → 0 < n) := by
  cases b with
  | none =>
    refine ⟨.none, 0, [], ?_, trivial, Nat.le_refl 0, rfl, rfl, rfl, fun _ _ h => absurd rfl h⟩
    simp only [BPos.reader] at hr ⊢
    unfold CallSt.read
    simp only [hr, readerEnded, if_true]
    rw [← hr]
  | len d =>
    simp only [BPos.reader, BPos.enc, BPos.payload] at hr ⊢
    rw [C08_len_step c d.length _ cap hr]
    generalize hk : min (min ((d ++ tail).take m).length cap) d.length = k
    obtain ⟨hw, hle, hlive⟩ := copy_window d tail m cap hk.symm
    refine ⟨.len (d.drop k), k, d.take k, ?_, trivial, hle, rfl, (List.take_append_drop k d).symm, rfl, hlive⟩
    rw [hw]
    simp only [List.length_drop]
  | close d =>
    obtain rfl : tail = [] := ht rfl
    simp only [BPos.reader, BPos.enc, BPos.payload] at hr ⊢
    rw [C08_close_step c _ cap hr]
    generalize hk : min ((d ++ []).take m).length cap = k
    -- nothing follows the body, so the window itself is within `d`
    obtain ⟨hw, hle, hlive⟩ := copy_window d [] m cap (k := k) (by rw [← hk]; simp only [List.append_nil, List.length_take]; omega)
    refine ⟨.close (d.drop k), k, d.take k, ?_, trivial, hle, rfl, (List.take_append_drop k d).symm, rfl, hlive⟩
    rw [hw, ← hr]
  | chunk r =>
    obtain ⟨hwf, hrest⟩ := hb
    simp only [BPos.reader, BPos.enc, BPos.payload] at hr ⊢
    obtain ⟨r1, n1, o1, hread, p⟩ := callReadS_adv r hwf hrest tail m cap c.stopBoundary
    rw [read_chunked_eq c r.state hr, hread]
    refine ⟨.chunk r1, n1, o1, rfl, ⟨p.adv.wf, p.rest⟩, p.adv.le, p.adv.enc, p.adv.payload, rfl, ?_⟩
    intro h1 h2 h3
    exact p.live h1 (Or.inl h2) (fun he => h3 ((rem_state_ended_iff r hrest).mp he))

theorem canProceed_body (f : Flow) (b : BPos) (hs : f.st = .recvBody) (hh : f.holder = .recvBody)
    (hr : f.call.reader = some b.reader) : f.canProceed = .ok (b.isClose || readerEnded b.reader) := by
  unfold Flow.canProceed
  simp only [hs, hh, hr]
  cases b <;> simp [BPos.reader, BPos.isClose, readerEnded]

theorem Head.enc_pos (H : Head) : 0 < H.enc.length := by simp [Head.enc, Head.statusLine]

theorem Head.safeWin_full (H : Head) (hack : Bool) (m : Nat) (h : H.enc.length ≤ m) : H.safeWin hack m :=
  Or.inr (Or.inl h)

/-- every window is safe for a head in which the fallback has no `Location` of a 3xx to find -/
theorem Head.safeWin_of_no_redirect_location (H : Head) (hack : Bool) (m : Nat)
    (h : ¬ (300 ≤ H.codeVal ∧ H.codeVal ≤ 399) ∨
         (fieldsOf (H.fields.map Field.pair)).any (fun x => x.name == "location") = false) : H.safeWin hack m :=
  Or.inr (Or.inr (Or.inl h))

theorem Head.safeWin_before_location (H : Head) (hack : Bool) {m : Nat} (pre : List Field) (f : Field) (post : List Field)
    (hsplit : H.fields = pre ++ f :: post)
    (hnoloc : (fieldsOf (pre.map Field.pair)).any (fun x => x.name == "location") = false)
    (hm : m < H.statusLine.length + (encFields pre).length + f.enc.length) : H.safeWin hack m :=
  Or.inr (Or.inr (Or.inr ⟨pre, f, post, hsplit, hnoloc, hm⟩))

/-- The receive side under `recvRun` from `f0`: the head is still to come (nothing has changed); or in the body at a
    position `b` of it (what was consumed and delivered, plus what `b` still holds, is the whole message); or done. -/
def RecvInv (H : Head) (b0 : BPos) (tail : Bytes) (f0 : Flow) (f : Flow) (o : RecvObs) : Prop :=
  -- a close-delimited body ends where the stream ends: nothing follows it
  (b0.isClose = true → tail = []) ∧
  o.faults = 0 ∧
  ((f = f0 ∧ o = {}) ∨
   (∃ b : BPos, b.good ∧ f.st = .recvBody ∧ f.holder = .recvBody ∧ f.call.reader = some b.reader ∧
      f.status = some H.codeVal ∧
      (H.enc ++ b0.enc ++ tail).drop o.consumed = b.enc ++ tail ∧
      o.consumed + b.enc.length = H.enc.length + b0.enc.length ∧
      o.head = some H.parsed ∧ o.body ++ b.payload = b0.payload ∧ b.isClose = b0.isClose) ∨
   (f.st = terminalSt H ∧ o.consumed = H.enc.length + b0.enc.length ∧ o.head = some H.parsed ∧ o.body = b0.payload))

theorem RecvInv.init {H : Head} {b0 : BPos} {tail : Bytes} {f0 : Flow} (htail : b0.isClose = true → tail = []) :
    RecvInv H b0 tail f0 f0 {} :=
  ⟨htail, rfl, Or.inl ⟨rfl, rfl⟩⟩

theorem drop_recvSpec (H : Head) (b0 : BPos) (tail : Bytes) :
    (H.enc ++ b0.enc ++ tail).drop (recvSpec H b0).consumed = tail := by
  show (H.enc ++ b0.enc ++ tail).drop (H.enc.length + b0.enc.length) = tail
  rw [← List.length_append, List.drop_left]

theorem recvDone_iff (f : Flow) : recvDone f = true ↔ f.st = .redirect ∨ f.st = .cleanup := by
  simp [recvDone]

theorem terminal_done {H : Head} {f : Flow} (h : f.st = terminalSt H) : recvDone f = true := by
  unfold recvDone; rw [h]; unfold terminalSt; split <;> simp

def recvish (s : FState) : Prop := s = .recvResponse ∨ s = .recvBody ∨ s = .redirect ∨ s = .cleanup

theorem recvish_not_send {s : FState} (h : recvish s) : s ≠ .prepare ∧ s ≠ .sendRequest ∧ s ≠ .sendBody ∧ s ≠ .await100 := by
  rcases h with h | h | h | h <;> (rw [h]; exact ⟨by simp, by simp, by simp, by simp⟩)

/-- of a message of `T` bytes: the bytes not yet consumed, plus one while the head is still to be handed out -/
def recvMeasure (T : Nat) (x : Flow × RecvObs) : Nat :=
  match x.1.st with
  | .recvResponse => 1 + (T - x.2.consumed)
  | .recvBody => T - x.2.consumed
  | _ => 0

theorem recvMeasure_le (T : Nat) (x : Flow × RecvObs) : recvMeasure T x ≤ T + 1 := by
  unfold recvMeasure
  split <;> omega

theorem recvStep_resp {hack : Bool} {stream : Bytes} {f : Flow} {o : RecvObs} {s : IoStep} (hst : f.st = .recvResponse) :
    recvStep hack stream (f, o) s =
      match stepRecvResponse hack f (.resp ((stream.drop o.consumed).take s.m)) with
      | (f1, .resp n (some r)) => ((f1.step hack .proceed).1, { o with consumed := o.consumed + n, head := some r })
      | (f1, .resp n none) => (f1, { o with consumed := o.consumed + n })
      | (f1, _) => (f1, { o with faults := o.faults + 1 }) := by
  unfold recvStep
  simp only [hst]
  rw [flow_step_recvResponse hst]
  rfl

theorem recvStep_bread {hack : Bool} {stream : Bytes} {f : Flow} {o : RecvObs} {s : IoStep} (hst : f.st = .recvBody) :
    recvStep hack stream (f, o) s =
      match stepRecvBody f (.bread ((stream.drop o.consumed).take s.m) s.cap) with
      | (f1, .bytes n out) =>
        (if isOkTrue f1.canProceed && (!(f1.call.reader == some .close) || (stream.drop (o.consumed + n)).isEmpty)
           then (f1.step hack .proceed).1 else f1,
         { o with consumed := o.consumed + n, body := o.body ++ out })
      | (f1, _) => (f1, { o with faults := o.faults + 1 }) := by
  unfold recvStep
  simp only [hst]
  rw [flow_step_recvBody hst]
  rfl

theorem recvStep_done (hack : Bool) (stream : Bytes) (x : Flow × RecvObs) (s : IoStep) (h : recvDone x.1 = true) :
    recvStep hack stream x s = x := by
  unfold recvStep
  rcases (recvDone_iff x.1).mp h with e | e <;> simp only [e]

theorem window_full (a rest : Bytes) (m : Nat) (h : a.length ≤ m) : (a ++ rest).take m = a ++ rest.take (m - a.length) := by
  rw [List.take_append, List.take_of_length_le h]

/-- what the prefix lemmas of C05 ask of a head: well-formed, within the slots of `try_response`, a status the
    scanner accepts, names within the `http` crate's limit -/
structure HeadOk (H : Head) : Prop where
  hw : H.wf
  hs : H.fields.length ≤ 128
  hc : 100 ≤ H.codeVal
  hn : H.namesShort

theorem RespOk.headOk {hack : Bool} {H : Head} {b0 : BPos} {m : Method} (h : RespOk hack H b0 m) : HeadOk H :=
  ⟨h.hw, h.hs, h.hc, h.hn⟩

theorem Interim.headOk {I : Head} (h : Interim I) : HeadOk I :=
  ⟨h.hw, by rw [h.hf]; exact Nat.zero_le _, by rw [h.hc]; exact Nat.le_refl _,
    fun g hg => by rw [h.hf] at hg; cases hg⟩

theorem call_head_prefix {hack : Bool} {H : Head} (hk : HeadOk H) (c : CallSt) {n : Nat} (hlt : n < H.enc.length) (hsw : H.safeWin hack n) :
    callTryResponse hack c (H.enc.take n) = (c, .ok none) := by
  cases hack with
  | false => exact C05_call_prefix_nohack c H hk.hw hk.hs n hlt
  | true =>
    rcases hsw with h | hfull | hnot | ⟨pre, f, post, hsplit, hnoloc, hn'⟩
    · cases h
    · omega
    · exact C05_call_prefix_partial c H hk.hw hk.hs hk.hc hk.hn hnot n hlt
    · exact C05_call_prefix_before_location c H hk.hw hk.hs hk.hc hk.hn pre f post hsplit hnoloc n hn'

/-- the branch of `stepRecvResponse_resp` on which no close reason is pushed: no `Nodup` needed -/
theorem stepRecvResponse_resp_none {hack : Bool} {f : Flow} {w : Bytes} (hh : f.holder = .recvResponse)
    (hc : callTryResponse hack f.call w = (f.call, .ok none)) :
    stepRecvResponse hack f (.resp w) = (f, .resp 0 none) := by
  have hne : (f.holder != Holder.recvResponse) = false := by simp [hh]
  unfold stepRecvResponse
  simp only [hne, Bool.false_eq_true, if_false, hc]

theorem step_resp_prefix {hack : Bool} {H : Head} (hk : HeadOk H) {f : Flow} (hh : f.holder = .recvResponse) {n : Nat} (hlt : n < H.enc.length)
    (hsw : H.safeWin hack n) : stepRecvResponse hack f (.resp (H.enc.take n)) = (f, .resp 0 none) :=
  stepRecvResponse_resp_none hh (call_head_prefix hk f.call hlt hsw)

theorem recvStep_prefix {hack : Bool} {H : Head} (hk : HeadOk H) {rest : Bytes} {f : Flow} (hst : f.st = .recvResponse) (hh : f.holder = .recvResponse)
    {s : IoStep} (hm : s.m < H.enc.length) (hsw : H.safeWin hack s.m) :
    recvStep hack (H.enc ++ rest) (f, {}) s = (f, {}) := by
  rw [recvStep_resp hst, List.drop_zero, List.take_append_of_le_length (Nat.le_of_lt hm),
    step_resp_prefix hk hh hm hsw]

theorem recvStep_body (hack : Bool) {stream : Bytes} {f : Flow} {o : RecvObs} {s : IoStep} {b' : BPos} {tail : Bytes}
    {n : Nat} {out : Bytes} (hst : f.st = .recvBody) (hh : f.holder = .recvBody)
    (hread : f.call.read ((stream.drop o.consumed).take s.m) s.cap =
      ({ f.call with reader := some b'.reader }, .ok (n, out)))
    (hd : stream.drop (o.consumed + n) = b'.enc ++ tail) (hb' : b'.good) (ht : b'.isClose = true → tail = []) :
    recvStep hack stream (f, o) s =
      (if b'.enc.isEmpty
         then { f with call := { f.call with reader := some b'.reader },
                       st := if isRedirectStatus f.status then .redirect else .cleanup }
         else { f with call := { f.call with reader := some b'.reader } },
       { o with consumed := o.consumed + n, body := o.body ++ out }) := by
  have hstep : stepRecvBody f (.bread ((stream.drop o.consumed).take s.m) s.cap) =
      ({ f with call := { f.call with reader := some b'.reader } }, .bytes n out) := by
    unfold stepRecvBody
    simp [hh, hread]
  have hcp := canProceed_body { f with call := { f.call with reader := some b'.reader } } b' hst hh rfl
  have hcl : (some b'.reader == some BodyReader.close) = b'.isClose := by cases b' <;> rfl
  rw [recvStep_bread hst, hstep]
  dsimp only
  rw [hd, hcl, hcp, isOkTrue_ok, b'.loop_done tail hb' ht]
  cases he : b'.enc.isEmpty with
  | false => rfl
  | true =>
    have hcan : (b'.isClose || readerEnded b'.reader) = true := by
      rw [← b'.loop_done tail hb' ht, Bool.and_eq_true] at he
      exact he.1
    rw [hcan] at hcp
    rw [if_pos rfl, if_pos rfl, flow_step_recvBody (f := { f with call := { f.call with reader := some b'.reader } }) hst,
      stepRecvBody_proceed hcp]

section
variable {hack : Bool} {H : Head} {b0 : BPos} (tail : Bytes) {f0 : Flow} (S : RecvSetup hack H b0 f0)
include S

theorem call_head_full (rest : Bytes) :
    callTryResponse hack f0.call (H.enc ++ rest) =
      ({ f0.call with reader := some b0.reader }, .ok (some (H.enc.length, H.parsed))) := by
  unfold callTryResponse parseWithFallback
  rw [C05_exact H S.resp.hw 128 S.resp.hs S.resp.hc S.resp.hn rest]
  have : (H.codeVal == 100) = false := by simpa using S.resp.h100
  simp only [this, Bool.false_eq_true, if_false]
  rw [S.resp.hframe]
  rfl

theorem step_resp_full (rest : Bytes) :
    stepRecvResponse hack f0 (.resp (H.enc ++ rest)) =
      ({ f0 with call := { f0.call with reader := some b0.reader }, status := some H.parsed.status,
                 location := lastLocation H.parsed.fields,
                 closeReasons := if hasHdr H.parsed.fields "connection" "close" = true
                   then (pushReason f0.closeReasons .serverClose).1 else f0.closeReasons },
       .resp H.enc.length (some H.parsed)) := by
  have h1 : (H.parsed.status == 100 && f0.await100) = false := by
    have : (H.parsed.status == 100) = false := by simpa [Head.parsed] using S.resp.h100
    simp [this]
  rw [stepRecvResponse_resp hack _ S.hh S.hnd, call_head_full S rest]
  simp only [h1, Bool.false_eq_true, if_false]

theorem recvStep_head_prefix (s : IoStep) (hm : s.m < H.enc.length) (hsw : H.safeWin hack s.m) :
    recvStep hack (H.enc ++ b0.enc ++ tail) (f0, {}) s = (f0, {}) := by
  rw [List.append_assoc]
  exact recvStep_prefix S.resp.headOk S.hst S.hh hm hsw

theorem recvStep_head_full (s : IoStep) (hm : H.enc.length ≤ s.m) :
    ∃ f2 : Flow, recvStep hack (H.enc ++ b0.enc ++ tail) (f0, {}) s =
        (f2, { consumed := H.enc.length, head := some H.parsed, body := [], faults := 0 }) ∧
      ReasonsSpec f0 H b0 f2.closeReasons ∧
      f2.status = some H.codeVal ∧ f2.call.reader = some b0.reader ∧
      ((needResponseBody (some b0.reader) = true ∧ f2.st = .recvBody ∧ f2.holder = .recvBody) ∨
       (needResponseBody (some b0.reader) = false ∧ f2.st = terminalSt H)) := by
  -- the reasons of `ReasonsSpec` are recorded by two conditional pushes: by the step that returns the head
  -- (`Connection: close`) and by the proceed that follows it (close-delimited body)
  obtain ⟨h1c, h1m⟩ := pushReason_if f0.closeReasons .serverClose (hasHdr H.parsed.fields "connection" "close" = true) S.hnd
  rw [recvStep_resp S.hst, List.drop_zero, List.append_assoc, window_full _ _ _ hm, step_resp_full S]
  dsimp only
  -- `by exact`: the flow is to be read off the goal, not off `S.hst`, whose statement mentions `f0`
  rw [flow_step_recvResponse (by exact S.hst), stepRecvResponse_proceed hack (by exact S.hst) (by exact S.hh) rfl h1c,
    Nat.zero_add]
  obtain ⟨h2c, h2m⟩ := pushReason_if _ .closeDelimited (b0.reader = .close) h1c
  refine ⟨_, rfl, ⟨h2c, fun c => ?_⟩, rfl, rfl, ?_⟩
  · rw [h2m c, h1m c, b0.reader_eq_close, or_assoc]
  · show (_ ∧ graphSpec _ = .recvBody ∧ _) ∨ (_ ∧ graphSpec _ = terminalSt H)
    unfold graphSpec
    simp only [S.hst]
    cases hnb : needResponseBody (some b0.reader) with
    | true => exact Or.inl ⟨rfl, rfl, trivial⟩
    | false => exact Or.inr ⟨rfl, rfl⟩

theorem recv_step {f : Flow} {o : RecvObs} (s : IoStep) (h : RecvInv H b0 tail f0 f o) (hsw : H.safeWin hack s.m)
    {y : Flow × RecvObs} (hy : recvStep hack (H.enc ++ b0.enc ++ tail) (f, o) s = y) :
    RecvInv H b0 tail f0 y.1 y.2 ∧
    (H.enc.length + b0.enc.length ≤ s.m → 1 ≤ s.cap →
      recvDone y.1 = true ∨ recvMeasure (H.enc.length + b0.enc.length) y < recvMeasure (H.enc.length + b0.enc.length) (f, o)) := by
  subst hy
  obtain ⟨htail, hf0, hA | hB | hC⟩ := h
  · obtain ⟨rfl, rfl⟩ := hA
    by_cases hm : s.m < H.enc.length
    · rw [recvStep_head_prefix tail S s hm hsw]
      exact ⟨.init htail, fun hfull _ => by omega⟩
    · obtain ⟨f2, hstep, _, h2s, h2r, hcase⟩ := recvStep_head_full tail S s (by omega)
      rw [hstep]
      rcases hcase with ⟨hnb, h2st, h2h⟩ | ⟨hnb, h2st⟩
      · refine ⟨⟨htail, rfl, Or.inr (Or.inl ⟨b0, S.resp.hb, h2st, h2h, h2r, h2s, ?_, rfl, rfl, by simp, rfl⟩)⟩, fun _ _ => Or.inr ?_⟩
        · show (H.enc ++ b0.enc ++ tail).drop H.enc.length = _
          rw [List.append_assoc, List.drop_left]
        · simp only [recvMeasure, h2st, S.hst]
          omega
      · have he := b0.enc_nil_of_noBody hnb
        have hp := b0.payload_nil S.resp.hb he
        refine ⟨⟨htail, rfl, Or.inr (Or.inr ⟨h2st, ?_, rfl, ?_⟩)⟩, fun _ _ => Or.inl (terminal_done h2st)⟩
        · show H.enc.length = _; rw [he]; simp
        · show [] = _; rw [hp]
  · obtain ⟨b, hb, hst, hh, hr, hstat, hd, hcons, hhead, hbody, hbcl⟩ := hB
    have htl : b.isClose = true → tail = [] := by rw [hbcl]; exact htail
    obtain ⟨b', n, out, hread, hb', hn, hdrop, hpay, hcl', hlive⟩ := body_step f.call b hb hr tail s.m s.cap htl
    have hd' : (H.enc ++ b0.enc ++ tail).drop (o.consumed + n) = b'.enc ++ tail := by
      rw [← List.drop_drop, hd, ← hdrop, List.drop_append_of_le_length hn]
    rw [← hd] at hread
    rw [recvStep_body hack hst hh hread hd' hb' (hcl' ▸ htl)]
    have hlen' : b'.enc.length = b.enc.length - n := by rw [← hdrop]; simp
    cases he : b'.enc.isEmpty with
    | false =>
      simp only [Bool.false_eq_true, if_false]
      refine ⟨⟨htail, hf0, Or.inr (Or.inl ⟨b', hb', hst, hh, rfl, hstat, hd', ?_, hhead, ?_, by rw [hcl', hbcl]⟩)⟩,
        fun hm hcap => Or.inr ?_⟩
      · show o.consumed + n + b'.enc.length = _
        omega
      · show o.body ++ out ++ b'.payload = _
        rw [List.append_assoc, ← hpay, hbody]
      · -- the body is not over, so something of it was left, and a full window with output space takes some
        have hbne : b.enc ≠ [] := by
          intro e1
          simp [← hdrop, e1] at he
        have hpos := hlive (by omega) hcap hbne
        simp only [recvMeasure, hst]
        omega
    | true =>
      simp only [if_true]
      have henc : b'.enc = [] := List.isEmpty_iff.mp he
      have h2t : (if isRedirectStatus f.status then FState.redirect else FState.cleanup) = terminalSt H := by
        rw [hstat]; rfl
      refine ⟨⟨htail, hf0, Or.inr (Or.inr ⟨h2t, ?_, hhead, ?_⟩)⟩, fun _ _ => Or.inl (terminal_done h2t)⟩
      · show o.consumed + n = _
        rw [henc] at hlen'; simp at hlen'; omega
      · show o.body ++ out = _
        rw [← hbody, hpay, BPos.payload_nil b' hb' henc]; simp
  · rw [recvStep_done hack _ (f, o) s (terminal_done hC.1)]
    exact ⟨⟨htail, hf0, Or.inr (Or.inr hC)⟩, fun _ _ => Or.inl (terminal_done hC.1)⟩

end

theorem recv_step_inv (hack : Bool) (H : Head) (b0 : BPos) (tail : Bytes) (f0 : Flow) (S : RecvSetup hack H b0 f0)
    (f : Flow) (o : RecvObs) (s : IoStep) (h : RecvInv H b0 tail f0 f o) (hsw : H.safeWin hack s.m) :
    RecvInv H b0 tail f0 (recvStep hack (H.enc ++ b0.enc ++ tail) (f, o) s).1
      (recvStep hack (H.enc ++ b0.enc ++ tail) (f, o) s).2 :=
  (recv_step tail S s h hsw rfl).1

theorem recv_step_progress (hack : Bool) (H : Head) (b0 : BPos) (tail : Bytes) (f0 : Flow) (S : RecvSetup hack H b0 f0)
    (f : Flow) (o : RecvObs) (s : IoStep) (h : RecvInv H b0 tail f0 f o)
    (hm : H.enc.length + b0.enc.length ≤ s.m) (hcap : 1 ≤ s.cap) :
    recvDone (recvStep hack (H.enc ++ b0.enc ++ tail) (f, o) s).1 = true ∨
    recvMeasure (H.enc.length + b0.enc.length) (recvStep hack (H.enc ++ b0.enc ++ tail) (f, o) s) <
      recvMeasure (H.enc.length + b0.enc.length) (f, o) :=
  (recv_step tail S s h (H.safeWin_full hack s.m (by omega)) rfl).2 hm hcap

theorem recv_run_inv {hack : Bool} {H : Head} {b0 : BPos} {tail : Bytes} {f0 : Flow} (S : RecvSetup hack H b0 f0)
    (htail : b0.isClose = true → tail = []) {sched : List IoStep} (hσ : ∀ s ∈ sched, H.safeWin hack s.m) :
    RecvInv H b0 tail f0 (recvRun hack (H.enc ++ b0.enc ++ tail) f0 sched).1 (recvRun hack (H.enc ++ b0.enc ++ tail) f0 sched).2 :=
  foldl_invariant (Inv := fun x => RecvInv H b0 tail f0 x.1 x.2)
    (fun x s hx hs => recv_step_inv hack H b0 tail f0 S x.1 x.2 s hx hs) sched (f0, {}) (.init htail) hσ

section
variable {hack : Bool} {H : Head} {b0 : BPos} {tail : Bytes} {f0 f : Flow} {o : RecvObs}

theorem RecvInv.recvish (h : RecvInv H b0 tail f0 f o) (S : RecvSetup hack H b0 f0) : recvish f.st := by
  obtain ⟨_, _, hA | ⟨b, _, hst, _⟩ | hC⟩ := h
  · exact Or.inl (hA.1 ▸ S.hst)
  · exact Or.inr (Or.inl hst)
  · exact Or.inr (Or.inr ((recvDone_iff f).mp (terminal_done hC.1)))

/-- `RecvInv` as far as the head handed out goes: none yet; that of `H`, in the body; that of `H`, at the end -/
theorem RecvInv.head_cases (h : RecvInv H b0 tail f0 f o) :
    (f = f0 ∧ o = {}) ∨ (f.st = .recvBody ∧ o.head = some H.parsed) ∨ (f.st = terminalSt H ∧ o.head = some H.parsed) := by
  obtain ⟨_, _, hA | ⟨b, _, hst, _, _, _, _, _, hhead, _⟩ | ⟨hst, _, hhead, _⟩⟩ := h
  · exact Or.inl hA
  · exact Or.inr (Or.inl ⟨hst, hhead⟩)
  · exact Or.inr (Or.inr ⟨hst, hhead⟩)

theorem recvSpec_of_done (hst0 : f0.st = .recvResponse) (h : RecvInv H b0 tail f0 f o) (hd : recvDone f = true) :
    o = recvSpec H b0 ∧ f.st = terminalSt H := by
  obtain ⟨htail, hf0, hA | hB | hC⟩ := h
  · obtain ⟨rfl, rfl⟩ := hA
    simp [recvDone, hst0] at hd
  · obtain ⟨b, hb, hst, _⟩ := hB
    simp [recvDone, hst] at hd
  · obtain ⟨hst, h1, h2, h3⟩ := hC
    refine ⟨?_, hst⟩
    cases o
    dsimp only at hf0 h1 h2 h3
    rw [hf0, h1, h2, h3]
    rfl

theorem recv_safe_of_inv (h : RecvInv H b0 tail f0 f o) :
    o.faults = 0 ∧ o.consumed ≤ H.enc.length + b0.enc.length ∧ o.body <+: b0.payload ∧
    (o.head = none ∨ o.head = some H.parsed) := by
  obtain ⟨htail, hf0, hA | hB | hC⟩ := h
  · obtain ⟨rfl, rfl⟩ := hA
    exact ⟨rfl, Nat.zero_le _, List.nil_prefix, Or.inl rfl⟩
  · obtain ⟨b, hb, hst, hh, hr, hstat, hd, hcons, hhead, hbody, _⟩ := hB
    exact ⟨hf0, by omega, ⟨b.payload, hbody⟩, Or.inr hhead⟩
  · obtain ⟨hst, h1, h2, h3⟩ := hC
    exact ⟨hf0, by omega, by rw [h3]; exact List.prefix_refl _, Or.inr h2⟩

end

theorem drop_shift (pre s : Bytes) (k : Nat) : (pre ++ s).drop (k + pre.length) = s.drop k := by
  rw [Nat.add_comm, List.drop_length_add_append]

theorem recvStep_shift (hack : Bool) (pre s : Bytes) (f : Flow) (o : RecvObs) (st : IoStep) :
    recvStep hack (pre ++ s) (f, o.shift pre.length) st =
      ((recvStep hack s (f, o) st).1, (recvStep hack s (f, o) st).2.shift pre.length) := by
  unfold recvStep
  have hw : (pre ++ s).drop (o.shift pre.length).consumed = s.drop o.consumed := drop_shift pre s o.consumed
  cases f.st <;> simp only
  · rw [hw]
    rcases f.step hack (.resp ((s.drop o.consumed).take st.m)) with ⟨f1, res⟩
    cases res <;> try rfl
    rename_i n r
    cases r <;> simp [RecvObs.shift, Nat.add_right_comm]
  · rw [hw]
    rcases f.step hack (.bread ((s.drop o.consumed).take st.m) st.cap) with ⟨f1, res⟩
    cases res <;> try rfl
    rename_i n out
    have hw2 : (pre ++ s).drop ((o.shift pre.length).consumed + n) = s.drop (o.consumed + n) := by
      show (pre ++ s).drop (o.consumed + pre.length + n) = _
      rw [Nat.add_right_comm]; exact drop_shift pre s (o.consumed + n)
    dsimp only
    rw [hw2]
    simp [RecvObs.shift, Nat.add_right_comm]

theorem recvStep_interim {hack : Bool} {I : Head} (hI : Interim I) {rest : Bytes} {f : Flow}
    (hst : f.st = .recvResponse) (hh : f.holder = .recvResponse) (ha : f.await100 = true) {s : IoStep} :
    recvStep hack (I.enc ++ rest) (f, {}) s =
      if s.m < I.enc.length then (f, {}) else ({ f with await100 := false }, ({} : RecvObs).shift I.enc.length) := by
  split
  · rename_i hm
    exact recvStep_prefix hI.headOk hst hh hm
      (I.safeWin_of_no_redirect_location hack s.m (Or.inl (by rw [hI.hc]; omega)))
  · rename_i hm
    rw [recvStep_resp hst, List.drop_zero, window_full _ _ _ (Nat.le_of_not_lt hm), C11_late hack f hh ha I hI.hw hI.hf hI.hc]
    rfl
