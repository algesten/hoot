import Hoot.Spec.Exchange
import Hoot.Props.C02
import Hoot.Props.C03
import Hoot.Props.C04
import Hoot.Props.C19
import Hoot.Proofs.FlowParts
import Hoot.Proofs.Analyze

theorem isOkTrue_ok (b : Bool) : isOkTrue (.ok b) = b := by cases b <;> rfl

/-- read through `analyze_request` (idempotent), so that it holds before the first write too -/
def HeadAt (r : AReq) (wr0 : BodyWriter) (c : CallSt) (wire : Bytes) : Prop :=
  c.analyzeRequest.2 = .ok () ∧ c.analyzeRequest.1.req = r ∧ c.analyzeRequest.1.analyzed = true ∧
  validPhase r.headers.length c.analyzeRequest.1.phase ∧ c.analyzeRequest.1.phase.isPrelude = true ∧
  c.analyzeRequest.1.writer = wr0 ∧ c.phase = c.analyzeRequest.1.phase ∧
  wire = ((headUnits r).take (headPos c.analyzeRequest.1)).flatten

def BodyAt (w : BodyWriter) (P : Bytes) (off : Nat) (bw : Bytes) : Prop :=
  match w.mode with
  | .none => False
  | .chunked => ∃ cs : List Bytes, (∀ x ∈ cs, x ≠ []) ∧ bw = wireOf cs w.ended ∧ cs.flatten = P.take off ∧ off ≤ P.length ∧
      (w.ended = true → off = P.length)
  | .sized left => left + off = P.length ∧ bw = P.take off ∧ (w.ended = true → left = 0)

/-- the flow stands in `Await100` (or has just left it): the head is out, the body is still due -/
def AwaitAt (f0 : Flow) (r : AReq) (wr0 : BodyWriter) (P : Bytes) (f : Flow) (o : SendObs) : Prop :=
  f.holder = .withBody ∧ f.shouldSendBody = true ∧ f.closeReasons = f0.closeReasons ∧
  f.call.analyzed = true ∧ f.call.req = r ∧ f.call.phase = .sendBody ∧ f.call.writer = wr0 ∧
  (wr0 = BodyWriter.newChunked ∨ wr0 = BodyWriter.newSized P.length) ∧ o.wire = renderHead r ∧ o.off = 0

/-- The stages of the send side: `SendA` the fresh flow in `Prepare`; `SendB` the head being written
    (`SendRequest`); `SendC` the body being written (`SendBody`); `SendD` the request handed over: the flow has
    entered `RecvResponse` with `SendSpec` on the wire. `Await100`, between B and C, is `AwaitAt`. -/
def SendA (f0 : Flow) (f : Flow) (o : SendObs) : Prop := f = f0 ∧ o = {}

def SendB (f0 : Flow) (r : AReq) (wr0 : BodyWriter) (f : Flow) (o : SendObs) : Prop :=
  f.st = .sendRequest ∧ f.holder = f0.holder ∧ f.shouldSendBody = f0.shouldSendBody ∧ f.closeReasons = f0.closeReasons ∧
  f.await100 = f0.await100 ∧ o.off = 0 ∧ HeadAt r wr0 f.call o.wire

def SendC (f0 : Flow) (r : AReq) (wr0 : BodyWriter) (P : Bytes) (f : Flow) (o : SendObs) : Prop :=
  f.st = .sendBody ∧ f.holder = .withBody ∧ f.closeReasons = f0.closeReasons ∧
  f.call.analyzed = true ∧ f.call.req = r ∧ f.call.phase = .sendBody ∧ f.call.writer.ended = false ∧
  ((wr0 = BodyWriter.newChunked ∧ f.call.writer.mode = .chunked) ∨
   (wr0 = BodyWriter.newSized P.length ∧ ∃ l, f.call.writer.mode = .sized l)) ∧
  ∃ bw, o.wire = renderHead r ++ bw ∧ BodyAt f.call.writer P o.off bw

structure SendD (f0 : Flow) (r : AReq) (wr0 : BodyWriter) (P : Bytes) (f : Flow) (o : SendObs) : Prop where
  st : f.st = .recvResponse
  holder : f.holder = .recvResponse
  reasons : f.closeReasons = f0.closeReasons
  req : f.call.req = r
  spec : SendSpec r wr0 P o.wire
  off : o.off = P.length

section
variable {f0 : Flow} {r : AReq} {wr0 : BodyWriter} {P : Bytes} {f : Flow} {o : SendObs} {c : CallSt} {w : Bytes}

theorem HeadAt.wire (h : HeadAt r wr0 c w) : w = ((headUnits r).take (headPos c.analyzeRequest.1)).flatten :=
  h.2.2.2.2.2.2.2
theorem SendB.off (h : SendB f0 r wr0 f o) : o.off = 0 := h.2.2.2.2.2.1
theorem SendB.headAt (h : SendB f0 r wr0 f o) : HeadAt r wr0 f.call o.wire := h.2.2.2.2.2.2
theorem AwaitAt.holder (h : AwaitAt f0 r wr0 P f o) : f.holder = .withBody := h.1
theorem AwaitAt.sendBody (h : AwaitAt f0 r wr0 P f o) : f.shouldSendBody = true := h.2.1
theorem AwaitAt.reasons (h : AwaitAt f0 r wr0 P f o) : f.closeReasons = f0.closeReasons := h.2.2.1
theorem AwaitAt.analyzed (h : AwaitAt f0 r wr0 P f o) : f.call.analyzed = true := h.2.2.2.1
theorem AwaitAt.req (h : AwaitAt f0 r wr0 P f o) : f.call.req = r := h.2.2.2.2.1
theorem AwaitAt.wire (h : AwaitAt f0 r wr0 P f o) : o.wire = renderHead r := h.2.2.2.2.2.2.2.2.1
theorem AwaitAt.off (h : AwaitAt f0 r wr0 P f o) : o.off = 0 := h.2.2.2.2.2.2.2.2.2
theorem SendC.wire (h : SendC f0 r wr0 P f o) : ∃ bw, o.wire = renderHead r ++ bw ∧ BodyAt f.call.writer P o.off bw :=
  h.2.2.2.2.2.2.2.2

theorem HeadAt.pos_lt (h : HeadAt r wr0 c w) : headPos c.analyzeRequest.1 < (headUnits r).length := by
  obtain ⟨_, hreq, _, hv, hp, _⟩ := h
  rcases validPhase_cases hv with ⟨_, hle⟩ | hsb
  · rw [headUnits_length, headPos, hreq]
    omega
  · rw [hsb] at hp
    cases hp

theorem sendSpec_head (h : SendSpec r wr0 P w) : ∃ bw, w = renderHead r ++ bw := by
  unfold SendSpec at h
  split at h
  · exact ⟨[], by rw [h]; simp⟩
  · exact ⟨P, h⟩
  · obtain ⟨cs, _, h, _⟩ := h; exact ⟨_, h⟩

theorem sendB_wire (hne : r.headers ≠ []) (h : SendB f0 r wr0 f o) : o.wire <+: renderHead r ∧ o.off = 0 := by
  refine ⟨?_, h.off⟩
  rw [h.headAt.wire, ← headUnits_flatten r hne]
  exact ⟨((headUnits r).drop _).flatten, by rw [← List.flatten_append, List.take_append_drop]⟩

theorem sendC_wire (h : SendC f0 r wr0 P f o) : (∃ bw, o.wire = renderHead r ++ bw) ∧ o.off ≤ P.length := by
  obtain ⟨bw, hw, hb⟩ := h.wire
  refine ⟨⟨bw, hw⟩, ?_⟩
  unfold BodyAt at hb
  split at hb
  · exact hb.elim
  · obtain ⟨_, _, _, _, h, _⟩ := hb; exact h
  · omega

end

theorem analyzeRequest_writer_none {c : CallSt} (hna : c.analyzed = false) (hok : c.analyzeRequest.2 = .ok ())
    (hsk : c.skipCheck = false) (hnb : c.req.method.needBody = false) (hw : c.writer = BodyWriter.newNone) :
    c.analyzeRequest.1.writer = BodyWriter.newNone := by
  obtain ⟨info, ha, hc'⟩ := analyzeRequest_ok_inv hna hok
  rw [hc']
  exact (analyze_ok_nobody ha hsk hnb).trans hw

theorem sendSetup_of_prepare (f : Flow) (wr0 : BodyWriter) (P : Bytes) (hst : f.st = .prepare)
    (hna : f.call.analyzed = false) (hph : f.call.phase = .sendLine)
    (han : f.call.analyzeRequest.2 = .ok ()) (hwr : f.call.analyzeRequest.1.writer = wr0)
    (hkind : (f.holder = .withoutBody ∧ f.shouldSendBody = false ∧ wr0 = BodyWriter.newNone ∧ P = []) ∨
             (f.holder = .withBody ∧ f.shouldSendBody = true ∧
                (wr0 = BodyWriter.newChunked ∨ wr0 = BodyWriter.newSized P.length))) :
    SendSetup f f.call.analyzeRequest.1.req wr0 P := by
  obtain ⟨info, ha, hc'⟩ := analyzeRequest_ok_inv hna han
  refine ⟨hst, han, rfl, ?_, ?_, hph, hwr, ?_, hkind⟩
  · rw [hc']
  · rw [hc']
    exact hph
  · rw [hc']
    exact analyzed_headers_ne_nil ha

theorem sendSetup_of_new (m : Method) (v : Version) (u : Uri) (orig : List Hdr) (hnb : m.needBody = false)
    (han : (Flow.new m v u orig).call.analyzeRequest.2 = .ok ()) :
    SendSetup (Flow.new m v u orig) (Flow.new m v u orig).call.analyzeRequest.1.req BodyWriter.newNone [] :=
  sendSetup_of_prepare _ _ _ rfl rfl rfl han
    (analyzeRequest_writer_none rfl han rfl hnb (by simp [Flow.new, hnb]))
    (Or.inl ⟨by simp [Flow.new, hnb], by simp [Flow.new, hnb], rfl, rfl⟩)

theorem sendSetup_of_new_body (m : Method) (v : Version) (u : Uri) (orig : List Hdr) (P : Bytes) (wr0 : BodyWriter)
    (hnb : m.needBody = true)
    (han : (Flow.new m v u orig).call.analyzeRequest.2 = .ok ())
    (hwr : (Flow.new m v u orig).call.analyzeRequest.1.writer = wr0)
    (hk : wr0 = BodyWriter.newChunked ∨ wr0 = BodyWriter.newSized P.length) :
    SendSetup (Flow.new m v u orig) (Flow.new m v u orig).call.analyzeRequest.1.req wr0 P :=
  sendSetup_of_prepare _ _ _ rfl rfl rfl han hwr
    (Or.inr ⟨by simp [Flow.new, hnb], by simp [Flow.new, hnb], hk⟩)

theorem SendSpec_unique (r : AReq) (wr0 : BodyWriter) (P w₁ w₂ : Bytes) (hm : wr0.mode ≠ .chunked)
    (h1 : SendSpec r wr0 P w₁) (h2 : SendSpec r wr0 P w₂) : w₁ = w₂ := by
  cases hmode : wr0.mode <;> simp only [SendSpec, hmode] at h1 h2
  · rw [h1, h2]
  · rw [h1, h2]
  · exact absurd hmode hm

theorem sendreq_write {r : AReq} {wr0 : BodyWriter} (hne : r.headers ≠ []) {f : Flow} {wire : Bytes}
    (hh : f.holder = .withoutBody ∨ f.holder = .withBody) (hat : HeadAt r wr0 f.call wire) (cap : Nat) :
    ∃ (c2 : CallSt), c2.analyzed = true ∧ c2.req = r ∧ c2.writer = wr0 ∧
      ((stepSendRequest f (.write cap) = ({ f with call := c2 }, .fault (.api .outputOverflow)) ∧
          HeadAt r wr0 c2 wire ∧ ¬ ∀ u ∈ headUnits r, u.length ≤ cap) ∨
       (∃ out, stepSendRequest f (.write cap) = ({ f with call := c2 }, .bytes 0 out) ∧
          headPos f.call.analyzeRequest.1 < headPos c2 ∧
          ((c2.phase.isPrelude = true ∧ HeadAt r wr0 c2 (wire ++ out)) ∨
           (c2.phase = .sendBody ∧ wire ++ out = renderHead r)))) := by
  have hpos := hat.pos_lt
  obtain ⟨han, hreq, hana, hv, hp, hw, hph, hwire⟩ := hat
  rw [stepSendRequest_write f cap hh han (by rw [hph]; exact hp) hp]
  generalize f.call.analyzeRequest.1 = c1 at *
  subst hreq
  rw [writePrelude_eq c1 cap hne hv]
  -- the call after the write: `c1` at the position behind the lines `greedy` took
  generalize hc2 : ({ c1 with phase := phaseAt _ _ } : CallSt) = c2
  obtain ⟨hc2r, hc2a, hc2w⟩ : c2.req = c1.req ∧ c2.analyzed = true ∧ c2.writer = wr0 := by
    rw [← hc2]; exact ⟨rfl, hana, hw⟩
  have hp2 : headPos c2 = headPos c1 + (greedy ((headUnits c1.req).drop (headPos c1)) cap).length := by
    rw [← hc2]; exact phasePos_phaseAt _ _
  have hv2 : validPhase c1.req.headers.length c2.phase := by
    rw [← hc2]; exact validPhase_phaseAt (headPos_add_greedy_le hv cap)
  have hat2 : ∀ w, c2.phase.isPrelude = true → w = ((headUnits c1.req).take (headPos c2)).flatten → HeadAt c1.req wr0 c2 w := by
    intro w hpre hw2
    unfold HeadAt
    rw [analyzeRequest_of_analyzed hc2a]
    exact ⟨rfl, hc2r, hc2a, hv2, hpre, hc2w, rfl, hw2⟩
  refine ⟨c2, hc2a, hc2r, hc2w, ?_⟩
  by_cases hov : greedy ((headUnits c1.req).drop (headPos c1)) cap = [] ∧ headPos c1 ≤ c1.req.headers.length
  · rw [if_pos hov]
    have hsame : c2 = c1 := by rw [← hc2, hov.1, List.length_nil, Nat.add_zero, headPos, phaseAt_phasePos hv]
    refine Or.inl ⟨rfl, hat2 wire (by rw [hsame]; exact hp) (by rw [hsame]; exact hwire), fun hbig => ?_⟩
    -- the line at the current position is one of the head's, so it fits and `greedy` takes it
    cases hd : (headUnits c1.req).drop (headPos c1) with
    | nil => exact absurd (List.drop_eq_nil_iff.mp hd) (by omega)
    | cons u rest =>
      have hu : u ∈ headUnits c1.req := List.mem_of_mem_drop (by rw [hd]; simp)
      simp [hd, greedy, hbig u hu] at hov
  · rw [if_neg hov]
    have hlt : headPos c1 < headPos c2 := by
      have : greedy ((headUnits c1.req).drop (headPos c1)) cap ≠ [] := fun e => hov ⟨e, by rw [headUnits_length] at hpos; omega⟩
      have := List.length_pos_iff.mpr this
      omega
    have hout : wire ++ (greedy ((headUnits c1.req).drop (headPos c1)) cap).flatten = ((headUnits c1.req).take (headPos c2)).flatten := by
      rw [hwire, take_flatten_step, hp2]
    refine Or.inr ⟨_, rfl, hlt, ?_⟩
    rcases validPhase_cases hv2 with ⟨hpre, _⟩ | hsb
    · exact Or.inl ⟨hpre, hat2 _ hpre hout⟩
    · refine Or.inr ⟨hsb, ?_⟩
      rw [hout, headPos_sendBody hsb, hc2r, List.take_length, headUnits_flatten c1.req hne]

theorem wireOf_append_open (cs cs' : List Bytes) (e : Bool) : wireOf cs false ++ wireOf cs' e = wireOf (cs ++ cs') e := by
  simp [wireOf, List.append_assoc]

/-- the slice the caller offers at offset `off` is `(P.drop off).take (k + 1)` -/
theorem slice_take (P : Bytes) (off k n : Nat) (hn : n ≤ ((P.drop off).take (k + 1)).length) :
    P.take off ++ ((P.drop off).take (k + 1)).take n = P.take (off + n) := by
  rw [List.take_take, List.take_add]
  congr 2
  simp at hn
  omega

theorem slice_eq_nil (P : Bytes) (off k : Nat) : (P.drop off).take (k + 1) = [] ↔ P.length ≤ off := by
  simp [List.take_eq_nil_iff]

/-- the writer `w` is still of the kind `wr0` the request was set up with (a conjunct of `SendC`) -/
def WriterKind (wr0 : BodyWriter) (P : Bytes) (w : BodyWriter) : Prop :=
  (wr0 = BodyWriter.newChunked ∧ w.mode = .chunked) ∨ (wr0 = BodyWriter.newSized P.length ∧ ∃ l, w.mode = .sized l)

theorem sendbody_write {f : Flow} {wr0 : BodyWriter} {P : Bytes} {off : Nat} {bw : Bytes} (k cap : Nat)
    (hh : f.holder = .withBody) (ha : f.call.analyzed = true) (hp : f.call.phase = .sendBody)
    (hne : f.call.writer.ended = false) (hk : WriterKind wr0 P f.call.writer)
    (hb : BodyAt f.call.writer P off bw) :
    ∃ (c2 : CallSt) (n : Nat) (out : Bytes),
      stepSendBody f (.bwrite ((P.drop off).take (k + 1)) cap) = ({ f with call := c2 }, .bytes n out) ∧
      c2.analyzed = true ∧ c2.req = f.call.req ∧ c2.phase = .sendBody ∧
      BodyAt c2.writer P (off + n) (bw ++ out) ∧ WriterKind wr0 P c2.writer ∧
      (6 ≤ cap → 0 < n ∨ c2.writer.ended = true) := by
  have hlen : ((P.drop off).take (k + 1)).length ≤ P.length - off := by simp; omega
  rw [stepSendBody_bwrite f _ cap hh ha hp]
  rcases hk with ⟨e1, hm⟩ | ⟨e1, left, hm⟩
  · simp only [BodyAt, hm, hne] at hb
    obtain ⟨cs, hcs, hbw, hfl, hoff, _⟩ := hb
    obtain ⟨cs', n, e, w⟩ := writeBodyPhase_open f.call ((P.drop off).take (k + 1)) cap hm hne
    have hn := w.consumed_le
    -- the body ends only on the empty slice, which is offered only when the payload is exhausted
    have hend : e = true → off + n = P.length := by
      intro he
      have hi := (w.ended_iff.mp he).1
      have := (slice_eq_nil P off k).mp hi
      have := (w.nil_input hi).2
      omega
    rw [w.eq]
    refine ⟨_, n, _, rfl, ha, rfl, hp, ⟨cs ++ cs', ?_, ?_, ?_, by omega, hend⟩, Or.inl ⟨e1, rfl⟩, fun hcap => ?_⟩
    · intro x hx
      exact (List.mem_append.mp hx).elim (hcs x) (w.chunks_ne x)
    · rw [hbw, wireOf_append_open]
    · rw [List.flatten_append, hfl, w.flatten, slice_take P off k n hn]
    · by_cases hi : (P.drop off).take (k + 1) = []
      · exact Or.inr (w.ended_iff.mpr ⟨hi, by omega⟩)
      · have := C19_progress_chunked f.call _ cap hm hne hi hcap
        exact Or.inl (by simpa [consumedBy, w.eq] using this)
  · simp only [BodyAt, hm] at hb
    obtain ⟨hsum, hbw, _⟩ := hb
    rw [C04_copy f.call left ((P.drop off).take (k + 1)) cap hm (by omega) (by simp [hne])]
    generalize hn : min (min cap ((P.drop off).take (k + 1)).length) left = n
    refine ⟨_, n, _, rfl, ha, rfl, hp, ⟨by omega, ?_, ?_⟩, Or.inr ⟨e1, _, rfl⟩, fun hcap => ?_⟩
    · rw [hbw, slice_take P off k n (by omega)]
    · intro he
      simp [hne] at he
      omega
    · by_cases hi : (P.drop off).take (k + 1) = []
      · have := (slice_eq_nil P off k).mp hi
        refine Or.inr ?_
        show (f.call.writer.ended || left - n == 0) = true
        simp [show left = 0 by omega]
      · have : ((P.drop off).take (k + 1)).length ≠ 0 := fun e => hi (List.eq_nil_of_length_eq_zero e)
        exact Or.inl (by omega)

theorem sendSpec_of_ended (r : AReq) {wr0 w : BodyWriter} {P : Bytes} {off : Nat} {bw : Bytes}
    (hk : WriterKind wr0 P w) (hb : BodyAt w P off bw) (he : w.ended = true) : SendSpec r wr0 P (renderHead r ++ bw) ∧ off = P.length := by
  rcases hk with ⟨e1, e2⟩ | ⟨e1, l, e2⟩
  · simp only [BodyAt, e2, he] at hb
    obtain ⟨cs, hcs, hbw, hfl, _, hoff⟩ := hb
    have hoff : off = P.length := hoff trivial
    refine ⟨?_, hoff⟩
    simp only [SendSpec, e1, BodyWriter.newChunked]
    exact ⟨cs, hcs, by rw [hbw], by rw [hfl, hoff, List.take_length]⟩
  · simp only [BodyAt, e2] at hb
    obtain ⟨hsum, hbw, hl⟩ := hb
    have hoff : off = P.length := by have := hl he; omega
    refine ⟨?_, hoff⟩
    simp only [SendSpec, e1, BodyWriter.newSized]
    rw [hbw, hoff, List.take_length]

theorem send_step_A (hack : Bool) (f0 : Flow) (r : AReq) (wr0 : BodyWriter) (P : Bytes) (S : SendSetup f0 r wr0 P)
    (f : Flow) (o : SendObs) (s : IoStep) (h : SendA f0 f o) :
    SendB f0 r wr0 (sendStep hack P (f, o) s).1 (sendStep hack P (f, o) s).2 := by
  obtain ⟨rfl, rfl⟩ := h
  unfold sendStep
  simp only [S.hst]
  rw [flow_step_prepare S.hst]
  unfold stepPrepare
  refine ⟨rfl, rfl, rfl, rfl, rfl, rfl, ?_⟩
  unfold HeadAt
  dsimp only
  refine ⟨S.han, S.hreq, S.hana, ?_, ?_, S.hwr, ?_, ?_⟩
  · rw [S.hph]; trivial
  · rw [S.hph]; rfl
  · rw [S.hph, S.hph0]
  · rw [headPos_sendLine S.hph]
    rfl

section
variable (hack : Bool) {f0 : Flow} {r : AReq} {wr0 : BodyWriter} {P : Bytes} {f : Flow} {o : SendObs}

theorem enter_body_inv (h : AwaitAt f0 r wr0 P f o) :
    SendC f0 r wr0 P { f with st := .sendBody } o := by
  obtain ⟨hh, hsb, hcr, ha, hreq, hp, hw, hk, hwire, hoff⟩ := h
  refine ⟨rfl, hh, hcr, ha, hreq, hp, ?_, ?_, [], ?_, ?_⟩
  · show f.call.writer.ended = false
    rw [hw]; rcases hk with e | e <;> rw [e] <;> rfl
  · show WriterKind wr0 P f.call.writer
    rw [hw]; rcases hk with e | e
    · exact Or.inl ⟨e, by rw [e]; rfl⟩
    · exact Or.inr ⟨e, P.length, by rw [e]; rfl⟩
  · simp [hwire]
  · show BodyAt f.call.writer P o.off []
    rw [hw, hoff]
    rcases hk with e | e <;> rw [e]
    · simp only [BodyAt, BodyWriter.newChunked]
      exact ⟨[], by simp, by simp [wireOf], by simp, by omega, by simp⟩
    · simp only [BodyAt, BodyWriter.newSized]
      exact ⟨by omega, by simp, by simp⟩

theorem send_step_B (S : SendSetup f0 r wr0 P) (s : IoStep) (h : SendB f0 r wr0 f o) {y : Flow × SendObs}
    (hy : sendStep hack P (f, o) s = y) :
    ((SendB f0 r wr0 y.1 y.2 ∧
        ((∀ u ∈ headUnits r, u.length ≤ s.cap) → headPos f.call.analyzeRequest.1 < headPos y.1.call.analyzeRequest.1)) ∨
     SendC f0 r wr0 P y.1 y.2 ∨ SendD f0 r wr0 P y.1 y.2 ∨
     (y.1.st = .await100 ∧ f0.await100 = true ∧ AwaitAt f0 r wr0 P y.1 y.2)) ∧
    y.1.await100 = f0.await100 := by
  subst hy
  obtain ⟨hst, hh, hsb, hcr, haw, hoff, hat⟩ := h
  have hhold : f.holder = .withoutBody ∨ f.holder = .withBody := hh ▸ S.hkind.imp And.left And.left
  obtain ⟨c2, hc2a, hc2r, hc2w, hcase⟩ := sendreq_write S.hne hhold hat s.cap
  unfold sendStep
  simp only [hst]
  rw [flow_step_sendRequest hst]
  rcases hcase with ⟨hstep, hat2, hnfit⟩ | ⟨out, hstep, hlt, hcase2⟩
  · rw [hstep]
    exact ⟨Or.inl ⟨⟨hst, hh, hsb, hcr, haw, hoff, hat2⟩, fun hbig => absurd hbig hnfit⟩, haw⟩
  · rw [hstep]
    dsimp only
    rcases hcase2 with ⟨hpre, hat2⟩ | ⟨hsbp, hwire⟩
    · rw [canProceed_sendreq { f with call := c2 } hst hhold (Or.inl hpre), hpre]
      refine ⟨Or.inl ⟨⟨hst, hh, hsb, hcr, haw, hoff, hat2⟩, fun _ => ?_⟩, haw⟩
      show _ < headPos c2.analyzeRequest.1
      rw [analyzeRequest_of_analyzed hc2a]
      exact hlt
    · -- the head is out: proceed
      have hcp : ({ f with call := c2 } : Flow).canProceed = .ok true := by
        rw [canProceed_sendreq { f with call := c2 } hst hhold (Or.inr hsbp), hsbp]
        rfl
      rw [hcp, isOkTrue_ok, if_pos rfl, flow_step_sendRequest (f := { f with call := c2 }) hst,
        stepSendRequest_proceed hcp]
      dsimp only
      rcases S.hkind with ⟨k1, k2, k3, k4⟩ | ⟨k1, k2, k4⟩
      · -- no body: straight to RecvResponse
        have hwe : c2.writer.ended = true := by rw [hc2w, k3]; rfl
        simp only [hsb, k2, hh, k1, hwe, Bool.false_eq_true, if_false, if_true]
        unfold enterRecvResponse
        refine ⟨Or.inr (Or.inr (Or.inl ⟨rfl, rfl, hcr, hc2r, ?_, ?_⟩)), haw⟩
        · simp only [SendSpec, k3, BodyWriter.newNone]; exact hwire
        · show o.off = P.length; rw [hoff, k4]; rfl
      · -- body due: wait for the interim response if the flag is up
        have hAt : AwaitAt f0 r wr0 P { f with call := c2 } { o with wire := o.wire ++ out } :=
          ⟨hh.trans k1, hsb.trans k2, hcr, hc2a, hc2r, hsbp, hc2w, k4, hwire, hoff⟩
        rw [if_pos (hsb.trans k2)]
        rcases Bool.eq_false_or_eq_true f.await100 with haw1 | haw1
        · rw [if_pos haw1]
          exact ⟨Or.inr (Or.inr (Or.inr ⟨rfl, haw ▸ haw1, hAt⟩)), haw⟩
        · rw [if_neg (by rw [haw1]; exact Bool.false_ne_true), enterSendBody_of_analyzed hc2a]
          exact ⟨Or.inr (Or.inl (enter_body_inv hAt)), haw⟩

theorem send_step_C (s : IoStep) (h : SendC f0 r wr0 P f o) {y : Flow × SendObs} (hy : sendStep hack P (f, o) s = y) :
    ((SendC f0 r wr0 P y.1 y.2 ∧ (6 ≤ s.cap → o.off < y.2.off)) ∨ SendD f0 r wr0 P y.1 y.2) ∧
    y.1.await100 = f.await100 := by
  subst hy
  obtain ⟨hst, hh, hcr, ha, hreq, hp, hne, hkind, bw, hw, hb⟩ := h
  obtain ⟨c2, n, out, hstep, hc2a, hc2r, hc2p, hb2, hkind2, hprogC⟩ :=
    sendbody_write s.m s.cap hh ha hp hne hkind hb
  have hcp : ({ f with call := c2 } : Flow).canProceed = .ok c2.writer.ended := canProceed_sendBody _ hst hh
  unfold sendStep
  simp only [hst]
  rw [flow_step_sendBody hst, hstep]
  dsimp only
  rw [hcp, isOkTrue_ok]
  cases he : c2.writer.ended with
  | false =>
    simp only [Bool.false_eq_true, if_false]
    refine ⟨Or.inl ⟨⟨hst, hh, hcr, hc2a, hc2r.trans hreq, hc2p, he, hkind2, bw ++ out, ?_, hb2⟩, fun hcap => ?_⟩, trivial⟩
    · show o.wire ++ out = renderHead r ++ (bw ++ out)
      rw [hw, List.append_assoc]
    · show o.off < o.off + n
      rcases hprogC hcap with h | h
      · omega
      · rw [he] at h; cases h
  | true =>
    rw [he] at hcp
    rw [if_pos rfl, flow_step_sendBody (f := { f with call := c2 }) hst,
      stepSendBody_proceed (f := { f with call := c2 }) hh hcp]
    unfold enterRecvResponse
    obtain ⟨hspec, hoffn⟩ := sendSpec_of_ended r hkind2 hb2 he
    refine ⟨Or.inr ⟨rfl, rfl, hcr, hc2r.trans hreq, ?_, hoffn⟩, rfl⟩
    show SendSpec r wr0 P (o.wire ++ out)
    rw [hw, List.append_assoc]
    exact hspec

end
