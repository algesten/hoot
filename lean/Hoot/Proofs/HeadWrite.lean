import Hoot.Spec.Request

/-! C02: the request head on the wire — whole lines only, resumable, exactly `renderHead` in total -/

theorem headerUnits_drop : ∀ (hs : List Hdr) (idx last k : Nat),
    (headerUnits hs idx last).drop k = headerUnits (hs.drop k) (idx + k) last := by
  intro hs
  induction hs with
  | nil =>
    intro idx last k
    simp [headerUnits]
  | cons h hs ih =>
    intro idx last k
    cases k with
    | zero => rfl
    | succ k =>
      rw [headerUnits, List.drop_succ_cons, List.drop_succ_cons, ih]
      congr 1
      omega

theorem headerUnits_length : ∀ (hs : List Hdr) (idx last : Nat), (headerUnits hs idx last).length = hs.length := by
  intro hs
  induction hs with
  | nil => exact fun _ _ => rfl
  | cons h hs ih =>
    intro idx last
    rw [headerUnits, List.length_cons, List.length_cons, ih]

theorem headerLine_pos (h : Hdr) (b : Bool) : 0 < (headerLine h b).length := by
  unfold headerLine crlf
  simp
  omega

theorem headerUnits_pos : ∀ (hs : List Hdr) (idx last : Nat), ∀ u ∈ headerUnits hs idx last, 0 < u.length := by
  intro hs
  induction hs with
  | nil => exact fun _ _ => nofun
  | cons h hs ih =>
    intro idx last
    exact List.forall_mem_cons.mpr ⟨headerLine_pos _ _, ih _ _⟩

theorem greedy_take : ∀ (l : List Bytes) (s : Nat), greedy l s = l.take (greedy l s).length := by
  intro l
  induction l with
  | nil => exact fun _ => rfl
  | cons u us ih =>
    intro s
    rw [greedy]
    split
    · rw [List.length_cons, List.take_succ_cons, ← ih]
    · rfl

theorem greedy_length_le (l : List Bytes) (s : Nat) : (greedy l s).length ≤ l.length := by
  rw [greedy_take l s, List.length_take]
  exact Nat.min_le_right _ _

theorem greedy_flatten_pos (l : List Bytes) (s : Nat) (hpos : ∀ u ∈ l, 0 < u.length) (hne : greedy l s ≠ []) :
    0 < (greedy l s).flatten.length := by
  cases l with
  | nil => exact absurd rfl hne
  | cons u us =>
    rw [greedy] at hne ⊢
    split
    · have := hpos u List.mem_cons_self
      rw [List.flatten_cons, List.length_append]
      omega
    · rw [if_neg ‹_›] at hne
      exact absurd rfl hne

theorem writeHeaders_greedy : ∀ (hs : List Hdr) (idx last : Nat) (w : W),
    writeHeaders hs idx last w =
      (idx + (greedy (headerUnits hs idx last) w.available).length,
       { w with out := w.out ++ (greedy (headerUnits hs idx last) w.available).flatten }) := by
  intro hs
  induction hs with
  | nil =>
    intro idx last w
    simp [writeHeaders, headerUnits, greedy]
  | cons h hs ih =>
    intro idx last w
    simp only [writeHeaders, headerUnits, greedy, W.tryWrite]
    by_cases hfit : (headerLine h (idx == last)).length ≤ w.available
    · have hav : ({ w with out := w.out ++ headerLine h (idx == last) } : W).available =
          w.available - (headerLine h (idx == last)).length := by
        simp only [W.available, List.length_append]
        omega
      simp only [hfit, if_true, ih, hav, List.length_cons, List.flatten_cons, List.append_assoc]
      rw [Nat.add_assoc, Nat.add_comm 1]
    · simp [hfit]

theorem headUnits_length (r : AReq) : (headUnits r).length = r.headers.length + 1 := by
  simp [headUnits, headerUnits_length]

theorem headerUnits_flatten : ∀ (hs : List Hdr) (idx last : Nat), hs ≠ [] → idx + hs.length = last + 1 →
    (headerUnits hs idx last).flatten = (hs.map (fun h => strBytes (h.name ++ ": ") ++ h.value ++ crlf)).flatten ++ crlf := by
  intro hs
  induction hs with
  | nil => exact fun _ _ h _ => absurd rfl h
  | cons h hs ih =>
    intro idx last _ hl
    rw [List.length_cons] at hl
    cases hs with
    | nil =>
      have : idx = last := by
        rw [List.length_nil] at hl
        omega
      simp [headerUnits, headerLine, this]
    | cons h2 hs2 =>
      have hne : (idx == last) = false := beq_false_of_ne (by rw [List.length_cons] at hl; omega)
      rw [headerUnits, List.flatten_cons, ih (idx + 1) last (List.cons_ne_nil _ _) (by omega)]
      simp [headerLine, hne]

theorem headUnits_flatten (r : AReq) (h : r.headers ≠ []) : (headUnits r).flatten = renderHead r := by
  unfold headUnits renderHead
  rw [List.flatten_cons, headerUnits_flatten r.headers 0 (r.headers.length - 1) h (by
    have : r.headers.length ≠ 0 := fun e => h (List.eq_nil_of_length_eq_zero e)
    omega)]
  simp

theorem validPhase_cases {n : Nat} {ph : Phase} (hv : validPhase n ph) :
    (ph.isPrelude = true ∧ phasePos n ph ≤ n) ∨ ph = .sendBody := by
  cases ph <;> simp [validPhase, Phase.isPrelude, phasePos] at hv ⊢
  omega

theorem headPos_sendLine {c : CallSt} (hp : c.phase = .sendLine) : headPos c = 0 := by
  rw [headPos, hp]
  rfl

theorem headPos_sendBody {c : CallSt} (hp : c.phase = .sendBody) : headPos c = (headUnits c.req).length := by
  rw [headUnits_length, headPos, hp]
  rfl

theorem headPos_add_greedy_le {c : CallSt} (hv : validPhase c.req.headers.length c.phase) (cap : Nat) :
    headPos c + (greedy ((headUnits c.req).drop (headPos c)) cap).length ≤ c.req.headers.length + 1 := by
  have h1 := greedy_length_le ((headUnits c.req).drop (headPos c)) cap
  rw [List.length_drop, headUnits_length] at h1
  rcases validPhase_cases hv with ⟨_, h⟩ | h
  · rw [headPos] at h1 ⊢
    omega
  · rw [headPos_sendBody h, headUnits_length] at h1 ⊢
    omega

def phaseAt (n : Nat) : Nat → Phase
  | 0 => .sendLine
  | k + 1 => if k == n then .sendBody else .sendHeaders k

theorem phaseAt_succ (n k : Nat) : phaseAt n (k + 1) = if k == n then .sendBody else .sendHeaders k := rfl

theorem phasePos_phaseAt (n k : Nat) : phasePos n (phaseAt n k) = k := by
  cases k with
  | zero => rfl
  | succ k =>
    by_cases he : k = n <;> simp [phaseAt, he, phasePos]

theorem validPhase_phaseAt {n k : Nat} (hk : k ≤ n + 1) : validPhase n (phaseAt n k) := by
  cases k with
  | zero => trivial
  | succ k =>
    by_cases he : k = n
    · simp [phaseAt, he, validPhase]
    · simp only [phaseAt, beq_iff_eq, he, if_false, validPhase]
      omega

theorem phaseAt_phasePos {n : Nat} {ph : Phase} (hv : validPhase n ph) : phaseAt n (phasePos n ph) = ph := by
  cases ph with
  | sendLine => rfl
  | sendHeaders i =>
    have : i ≠ n := Nat.ne_of_lt hv
    simp [phasePos, phaseAt, this]
  | sendBody => simp [phasePos, phaseAt]
  | recvResponse => cases hv
  | recvBody => cases hv

theorem requestLine_pos (r : AReq) : 0 < (requestLine r).length := by
  unfold requestLine crlf
  simp
  omega

theorem wp_headers (c : CallSt) (idx cap : Nat) (hp : c.phase = .sendHeaders idx) (hh : c.req.headers ≠ []) :
    writePrelude c { out := [], cap := cap } =
      ({ c with phase := if idx + (greedy (headerUnits (c.req.headers.drop idx) idx (c.req.headers.length - 1)) cap).length == c.req.headers.length
                         then .sendBody else .sendHeaders (idx + (greedy (headerUnits (c.req.headers.drop idx) idx (c.req.headers.length - 1)) cap).length) },
       { out := (greedy (headerUnits (c.req.headers.drop idx) idx (c.req.headers.length - 1)) cap).flatten, cap := cap },
       if (greedy (headerUnits (c.req.headers.drop idx) idx (c.req.headers.length - 1)) cap).flatten.length > 0 ||
          (idx + (greedy (headerUnits (c.req.headers.drop idx) idx (c.req.headers.length - 1)) cap).length == c.req.headers.length)
       then .ok () else .error (.api .outputOverflow)) := by
  have hcount : c.req.headers.length ≠ 0 := fun e => hh (List.eq_nil_of_length_eq_zero e)
  have hav : ({ out := [], cap := cap } : W).available = cap := Nat.sub_zero cap
  unfold writePrelude
  simp only [hp, Bool.not_true, Bool.false_eq_true, if_false, hcount, List.length_nil, Nat.sub_zero,
    writeHeaders_greedy, hav, List.nil_append]
  congr 2
  by_cases he : idx + (greedy (headerUnits (c.req.headers.drop idx) idx (c.req.headers.length - 1)) cap).length = c.req.headers.length
  · simp [he]
  · simp [he]

theorem wp_line (c : CallSt) (cap : Nat) (hp : c.phase = .sendLine) (hh : c.req.headers ≠ []) :
    writePrelude c { out := [], cap := cap } =
      if (requestLine c.req).length ≤ cap then
        ({ c with phase := if (greedy (headerUnits c.req.headers 0 (c.req.headers.length - 1)) (cap - (requestLine c.req).length)).length == c.req.headers.length
                           then .sendBody else .sendHeaders (greedy (headerUnits c.req.headers 0 (c.req.headers.length - 1)) (cap - (requestLine c.req).length)).length },
         { out := requestLine c.req ++ (greedy (headerUnits c.req.headers 0 (c.req.headers.length - 1)) (cap - (requestLine c.req).length)).flatten, cap := cap },
         .ok ())
      else (c, { out := [], cap := cap }, .error (.api .outputOverflow)) := by
  have hcount : c.req.headers.length ≠ 0 := fun e => hh (List.eq_nil_of_length_eq_zero e)
  by_cases hfit : (requestLine c.req).length ≤ cap
  · have hrl := requestLine_pos c.req
    unfold writePrelude
    simp only [hp, W.tryWrite, W.available, List.length_nil, Nat.sub_zero, hfit, if_true, List.nil_append,
      Bool.not_true, Bool.false_eq_true, if_false, hcount, List.drop_zero, writeHeaders_greedy, Nat.zero_add]
    congr 2
    -- the request line alone makes the call productive
    simp
    intro he
    rw [he] at hrl
    cases hrl
  · unfold writePrelude
    simp [hp, W.tryWrite, W.available, hfit]

theorem wp_body (c : CallSt) (cap : Nat) (hp : c.phase = .sendBody) :
    writePrelude c { out := [], cap := cap } = (c, { out := [], cap := cap }, .ok ()) := by
  unfold writePrelude
  simp [hp]

theorem writePrelude_eq (c : CallSt) (cap : Nat) (hh : c.req.headers ≠ []) (hv : validPhase c.req.headers.length c.phase) :
    writePrelude c { out := [], cap := cap } =
      ({ c with phase := phaseAt c.req.headers.length (headPos c + (greedy ((headUnits c.req).drop (headPos c)) cap).length) },
       { out := (greedy ((headUnits c.req).drop (headPos c)) cap).flatten, cap := cap },
       if greedy ((headUnits c.req).drop (headPos c)) cap = [] ∧ headPos c ≤ c.req.headers.length
       then .error (.api .outputOverflow) else .ok ()) := by
  -- where nothing is taken the phase stays: `phaseAt` undoes `phasePos`
  have hstay : ({ c with phase := phaseAt c.req.headers.length (headPos c + ([] : List Bytes).length) } : CallSt) = c := by
    rw [List.length_nil, Nat.add_zero, headPos, phaseAt_phasePos hv]
  cases hp : c.phase with
  | sendLine =>
    rw [headPos_sendLine hp] at hstay ⊢
    rw [wp_line c cap hp hh, List.drop_zero, headUnits, greedy]
    by_cases hfit : (requestLine c.req).length ≤ cap
    · rw [if_pos hfit, if_pos hfit, if_neg (c := _ ∧ _) (fun h => List.cons_ne_nil _ _ h.1), List.length_cons, Nat.zero_add,
        phaseAt_succ, List.flatten_cons]
    · rw [if_neg hfit, if_neg hfit, if_pos ⟨rfl, Nat.zero_le _⟩, hstay, List.flatten_nil]
  | sendHeaders idx =>
    rw [hp] at hv
    have hlt : idx < c.req.headers.length := hv
    have hpos : headPos c = idx + 1 := by rw [headPos, hp]; rfl
    have hd : (headUnits c.req).drop (idx + 1) = headerUnits (c.req.headers.drop idx) idx (c.req.headers.length - 1) := by
      rw [headUnits, List.drop_succ_cons, headerUnits_drop, Nat.zero_add]
    rw [hpos, wp_headers c idx cap hp hh, hd, Nat.add_right_comm, phaseAt_succ]
    congr 2
    -- a header line is not empty: nothing emitted means nothing taken, and then `idx` is still short of the end
    by_cases hnil : greedy (headerUnits (c.req.headers.drop idx) idx (c.req.headers.length - 1)) cap = []
    · rw [hnil, if_pos (c := _ ∧ _) ⟨rfl, Nat.succ_le_of_lt hlt⟩, if_neg]
      simp [Nat.ne_of_lt hlt]
    · rw [if_neg (c := _ ∧ _) (fun h => hnil h.1), if_pos]
      exact Bool.or_eq_true_iff.mpr (Or.inl (decide_eq_true (greedy_flatten_pos _ _ (headerUnits_pos _ _ _) hnil)))
  | sendBody =>
    rw [headPos_sendBody hp] at hstay ⊢
    rw [wp_body c cap hp, List.drop_length, greedy, hstay, if_neg, List.flatten_nil]
    rw [headUnits_length]
    exact fun h => Nat.not_succ_le_self _ h.2
  | recvResponse =>
    rw [hp] at hv
    cases hv
  | recvBody =>
    rw [hp] at hv
    cases hv
