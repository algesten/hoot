import Hoot.Spec.Head

/-! The response and the request scanner read field lines by the same six phases; `FieldSteps` says of an
    arbitrary scanner that it contains these. -/

theorem Head.wf.fields {h : Head} (hw : h.wf) : ∀ f ∈ h.fields, f.wf := hw.2.2.2.2.2

theorem RHead.wf.fields {h : RHead} (hw : h.wf) : ∀ f ∈ h.fields, f.wf := hw.2.2.2.2.2

def Field.body (f : Field) : Bytes' := f.name ++ (58 :: (f.pre ++ (f.value ++ (f.post ++ [13]))))

theorem Field.enc_eq_body (f : Field) : f.enc = f.body ++ [10] := by
  simp [Field.enc, Field.body]

def Field.atCR (f : Field) : RPhase :=
  match f.value with
  | [] => .emptyCR f.name
  | v => .valueCR f.name (v ++ f.post)

theorem ws_valueTok {b : UInt8} (h : isWs b = true) : isValueTok b = true := by
  simp [isWs] at h
  rcases h with h | h <;> subst h <;> decide

theorem ne_of_tok {p : UInt8 → Bool} {b c : UInt8} (hb : p b = true) (hc : p c = false) : b ≠ c := by
  rintro rfl
  rw [hb] at hc
  cases hc

theorem encFields_cons (f : Field) (fs : List Field) : encFields (f :: fs) = f.enc ++ encFields fs := by
  simp [encFields]

theorem encFields_append (a b : List Field) : encFields (a ++ b) = encFields a ++ encFields b := by
  simp [encFields]

theorem trimEnd_append_ws (v ws : Bytes') (hws : ∀ b ∈ ws, isWs b = true)
    (hl : ∀ b, v.getLast? = some b → isWs b = false) : trimEnd (v ++ ws) = v := by
  unfold trimEnd
  rw [List.reverse_append, List.dropWhile_append_of_pos (fun b hb => hws b (List.mem_reverse.mp hb))]
  cases hv : v.reverse with
  | nil =>
    rw [List.reverse_eq_nil_iff.mp hv]
    rfl
  | cons x xs =>
    have hx : isWs x = false := hl x (by rw [List.getLast?_eq_head?_reverse, hv]; rfl)
    rw [List.dropWhile_cons_of_neg (by simp [hx]), ← hv, List.reverse_reverse]

/-- `step` reads field lines as `respStep` does: `ph done p` stands for phase `p` of a field line, with the fields
    `done` recorded, in a scanner with `slots` header slots. -/
structure FieldSteps {σ ρ : Type} (step : σ → UInt8 → StepR σ ρ HErr) (ph : List (Bytes' × Bytes') → RPhase → σ)
    (slots : Nat) : Prop where
  start {done b} : isNameTok b = true → step (ph done .lineStart) b = .next (ph done (.name [b]))
  name {done acc b} : isNameTok b = true → step (ph done (.name acc)) b = .next (ph done (.name (acc ++ [b])))
  colon {done acc} : step (ph done (.name acc)) 58 = .next (ph done (.ows acc))
  ows {done nm b} : isWs b = true → step (ph done (.ows nm)) b = .next (ph done (.ows nm))
  first {done nm b} : isValueTok b = true → isWs b = false →
    step (ph done (.ows nm)) b = .next (ph done (.value nm [b]))
  emptyCR {done nm} : step (ph done (.ows nm)) 13 = .next (ph done (.emptyCR nm))
  value {done nm acc b} : isValueTok b = true →
    step (ph done (.value nm acc)) b = .next (ph done (.value nm (acc ++ [b])))
  valueCR {done nm acc} : step (ph done (.value nm acc)) 13 = .next (ph done (.valueCR nm acc))
  emptyLF {done nm} : step (ph done (.emptyCR nm)) 10 =
    if done.length < slots then .next (ph (done ++ [(nm, [])]) .lineStart) else .err .tooManyHeaders
  valueLF {done nm acc} : step (ph done (.valueCR nm acc)) 10 =
    if done.length < slots then .next (ph (done ++ [(nm, trimEnd acc)]) .lineStart) else .err .tooManyHeaders

namespace FieldSteps

variable {σ ρ : Type} {step : σ → UInt8 → StepR σ ρ HErr} {ph : List (Bytes' × Bytes') → RPhase → σ} {slots : Nat}

theorem run_body (A : FieldSteps step ph slots) (done : List (Bytes' × Bytes')) (f : Field) (hf : f.wf)
    (rest : Bytes') (k : Nat) :
    runFrom step (ph done .lineStart) (f.body ++ rest) k =
      runFrom step (ph done f.atCR) rest (k + f.body.length) := by
  obtain ⟨name, pre, value, post⟩ := f
  obtain ⟨hne, hname, hpre, hpost, hval, hhead, _⟩ := hf
  cases name with
  | nil => exact absurd rfl hne
  | cons n0 ns =>
    simp only [Field.body, List.cons_append, List.append_assoc]
    rw [runFrom_cons_next (A.start (hname n0 List.mem_cons_self)),  -- in `.name [n0]`
      runFrom_loop step (fun acc => ph done (.name acc)) ns
        (fun acc b hb => A.name (hname b (List.mem_cons_of_mem n0 hb))) [n0],
      List.singleton_append,                                        -- in `.name (n0 :: ns)`
      runFrom_cons_next A.colon,                                    -- in `.ows (n0 :: ns)`
      runFrom_skip step _ pre (fun b hb => A.ows (hpre b hb))]      -- still there, `pre` read
    cases value with
    | nil =>
      rw [List.nil_append, runFrom_skip step _ post (fun b hb => A.ows (hpost b hb)),  -- still in `.ows`, `post` read
        runFrom_cons_next A.emptyCR]                                                  -- in `.emptyCR (n0 :: ns)`
      simp only [Field.atCR, List.length_cons, List.length_append, List.length_nil]
      congr 1
      omega
    | cons v0 vs =>
      -- the trailing OWS is read as part of the value (it is cut off when the field is recorded)
      have htail : ∀ b ∈ vs ++ post, isValueTok b = true := by
        intro b hb
        rcases List.mem_append.mp hb with h | h
        · exact hval b (List.mem_cons_of_mem v0 h)
        · exact ws_valueTok (hpost b h)
      rw [List.cons_append,
        runFrom_cons_next (A.first (hval v0 List.mem_cons_self) (hhead v0 rfl)),  -- in `.value (n0 :: ns) [v0]`
        ← List.append_assoc vs post,
        runFrom_loop step (fun acc => ph done (.value (n0 :: ns) acc)) (vs ++ post)
          (fun acc b hb => A.value (htail b hb)) [v0],
        List.singleton_append,                                    -- in `.value (n0 :: ns) (v0 :: vs ++ post)`
        runFrom_cons_next A.valueCR]                              -- in `.valueCR (n0 :: ns) (v0 :: vs ++ post)`
      simp only [Field.atCR, List.length_cons, List.length_append, List.length_nil]
      congr 1
      omega

theorem lf (A : FieldSteps step ph slots) (done : List (Bytes' × Bytes')) (f : Field) (hf : f.wf) :
    step (ph done f.atCR) 10 =
      if done.length < slots then .next (ph (done ++ [f.pair]) .lineStart) else .err .tooManyHeaders := by
  obtain ⟨name, pre, value, post⟩ := f
  obtain ⟨_, _, _, hpost, _, _, hlast⟩ := hf
  cases value with
  | nil => exact A.emptyLF
  | cons v0 vs =>
    have h := A.valueLF (done := done) (nm := name) (acc := (v0 :: vs) ++ post)
    rw [trimEnd_append_ws (v0 :: vs) post hpost hlast] at h
    exact h

theorem run_line (A : FieldSteps step ph slots) (done : List (Bytes' × Bytes')) (f : Field) (hf : f.wf)
    (rest : Bytes') (k : Nat) :
    runFrom step (ph done .lineStart) (f.enc ++ rest) k =
      if done.length < slots then runFrom step (ph (done ++ [f.pair]) .lineStart) rest (k + f.enc.length)
      else .error .tooManyHeaders := by
  rw [f.enc_eq_body, List.append_assoc, A.run_body done f hf, List.singleton_append]
  split
  · rw [runFrom_cons_next ((A.lf done f hf).trans (if_pos ‹_›)), List.length_append, Nat.add_assoc]
    rfl
  · rw [runFrom_cons_err ((A.lf done f hf).trans (if_neg ‹_›))]

theorem run_lines (A : FieldSteps step ph slots) (fs : List Field) (hfs : ∀ f ∈ fs, f.wf)
    (done : List (Bytes' × Bytes')) (hs : done.length + fs.length ≤ slots) (rest : Bytes') (k : Nat) :
    runFrom step (ph done .lineStart) (encFields fs ++ rest) k =
      runFrom step (ph (done ++ fs.map Field.pair) .lineStart) rest (k + (encFields fs).length) := by
  induction fs generalizing done k with
  | nil => simp [encFields]
  | cons f fs ih =>
    rw [List.length_cons] at hs
    rw [encFields_cons, List.append_assoc, A.run_line done f (hfs f List.mem_cons_self), if_pos (by omega),
      ih (fun g hg => hfs g (List.mem_cons_of_mem f hg)) (done ++ [f.pair]) (by simp; omega),
      List.map_cons, List.append_assoc, List.singleton_append, List.length_append, Nat.add_assoc]

/-- the first line that finds no slot free ends the run -/
theorem run_too_many (A : FieldSteps step ph slots) (fs : List Field) (hfs : ∀ f ∈ fs, f.wf)
    (done : List (Bytes' × Bytes')) (hd : done.length ≤ slots) (hs : slots < done.length + fs.length)
    (rest : Bytes') (k : Nat) :
    runFrom step (ph done .lineStart) (encFields fs ++ rest) k = .error .tooManyHeaders := by
  induction fs generalizing done k with
  | nil => exact absurd hs (Nat.not_lt.mpr hd)
  | cons f fs ih =>
    rw [encFields_cons, List.append_assoc, A.run_line done f (hfs f List.mem_cons_self)]
    split
    · have hlen : (done ++ [f.pair]).length = done.length + 1 := List.length_append
      rw [List.length_cons] at hs
      exact ih (fun g hg => hfs g (List.mem_cons_of_mem f hg)) (done ++ [f.pair]) (by omega) (by omega) _
    · rfl

end FieldSteps
