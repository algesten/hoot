import Hoot.Spec.Flow

theorem C06_abs (http10 : Bool) (m : Method) (status : Nat) (fr : Framing) :
    forResponseAbs http10 m status fr = rfcFraming http10 m status fr := by
  obtain ⟨cl, ch⟩ := fr
  unfold forResponseAbs rfcFraming
  rcases cl with _ | _ | n
  case some.none => rfl
  all_goals
    dsimp only
    -- the clauses that answer "no body" whatever the headers say, in the order of the code
    by_cases hA : m = .head
    · simp [hA]
    by_cases hB : (200 ≤ status ∧ status ≤ 299) ∧ m = .connect
    · simp [hB]
    by_cases hC : (100 ≤ status ∧ status ≤ 199) ∨ status = 204 ∨ status = 304
    · rcases hC with h | h | h <;> simp [hA, h]
    -- none applies: the headers decide, and "3xx other than 304" is plain 3xx
    have hB' : ¬(m = .connect ∧ 200 ≤ status ∧ status ≤ 299) := fun h => hB ⟨h.2, h.1⟩
    have hC' : decide (100 ≤ status ∧ status ≤ 199) = false ∧ (status == 204) = false ∧ (status == 304) = false := by
      simpa [not_or] using hC
    have h304 : status ≠ 304 := by simpa using hC'.2.2
    cases hch : (ch && !http10) <;> simp [hA, hB, hB', hC', h304, apply_ite Except.ok]

theorem C06_mode (respHttp10 : Bool) (m : Method) (status : Nat) (hs : List Hdr) :
    forResponse respHttp10 m status hs = rfcFraming respHttp10 m status (framingOf hs) := by
  unfold forResponse; exact C06_abs _ _ _ _

theorem C15_table (m : Method) (status : Nat) : newMethodOf m status = tableSpec m status := by
  unfold newMethodOf tableSpec
  cases m <;> simp [Method.needBody] <;> split <;> simp_all

theorem isRedirectStatus_iff (s : Option Nat) :
    isRedirectStatus s = true ↔ 300 ≤ s.getD 0 ∧ s.getD 0 ≤ 399 ∧ s.getD 0 ≠ 304 := by
  cases s <;> simp [isRedirectStatus, and_assoc]

theorem asNewFlow_res (f : Flow) (sameHost : Bool) :
    (f.asNewFlow sameHost).2 = followRes f.call.req f.location f.status sameHost := by
  -- both sides are the same cascade over five scrutinees: each is made a variable and split, every leaf is `rfl`
  unfold Flow.asNewFlow followRes
  generalize f.location = L
  cases L with
  | none => rfl
  | some locB =>
    dsimp only
    generalize toStr? locB = T
    cases T with
    | none => rfl
    | some loc =>
      dsimp only
      by_cases ht : f.call.req.taken = true
      · simp only [ht, if_true]
      · simp only [ht, Bool.false_eq_true, if_false]
        generalize f.status = S
        cases S with
        | none => rfl
        | some st =>
          dsimp only
          generalize resolve f.call.req.effUri (String.ofList (loc.map fun b => Char.ofNat b.toNat)) = R
          cases R with
          | outOfClass => rfl
          | err => rfl
          | ok uri =>
            dsimp only
            generalize newMethodOf f.call.req.method st = M
            cases M <;> rfl

/-- what every answer of `as_new_flow` other than an error rests on -/
structure Resolved (req : AReq) (location : Option Bytes) (status : Option Nat) (locB text : Bytes) (st : Nat)
    (uri : Uri) : Prop where
  loc : location = some locB
  txt : toStr? locB = some text
  taken : req.taken = false
  status : status = some st
  res : resolve req.effUri (String.ofList (text.map fun b => Char.ofNat b.toNat)) = .ok uri

theorem followRes_inv {req : AReq} {location : Option Bytes} {status : Option Nat} {sameHost : Bool}
    (h : ∀ e, followRes req location status sameHost ≠ .fault e)
    (h' : followRes req location status sameHost ≠ .outOfClass) :
    ∃ locB loc st uri, Resolved req location status locB loc st uri ∧
      followRes req location status sameHost =
        match newMethodOf req.method st with
        | none => .none
        | some nm => .flow (followFlow req nm uri sameHost) := by
  cases location with
  | none => exact absurd rfl (h _)
  | some locB =>
    cases ht : toStr? locB with
    | none => exact absurd (by simp only [followRes, ht]) (h (.api .badLocationHeader))
    | some text =>
      cases hnt : req.taken with
      | true => exact absurd (by simp only [followRes, ht, hnt, if_true]) (h (.panic "amended.rs take_request / base uri"))
      | false =>
        cases status with
        | none => exact absurd (by simp [followRes, ht, hnt]) (h (.panic "flow.rs status unwrap"))
        | some st =>
          cases hres : resolve req.effUri (String.ofList (text.map fun b => Char.ofNat b.toNat)) with
          | outOfClass => exact absurd (by simp [followRes, ht, hnt, hres]) h'
          | err => exact absurd (by simp [followRes, ht, hnt, hres]) (h (.api .badLocationHeader))
          | ok uri =>
            refine ⟨locB, text, st, uri, ⟨rfl, ht, hnt, rfl, hres⟩, ?_⟩
            simp only [followRes, ht, hnt, hres, Bool.false_eq_true, if_false]
            cases newMethodOf req.method st <;> rfl

theorem followRes_flow {req : AReq} {location : Option Bytes} {status : Option Nat} {sameHost : Bool} {nf : Flow}
    (h : followRes req location status sameHost = .flow nf) :
    ∃ locB loc st uri nm, Resolved req location status locB loc st uri ∧
      newMethodOf req.method st = some nm ∧ nf = followFlow req nm uri sameHost := by
  obtain ⟨locB, loc, st, uri, R, e⟩ := followRes_inv (by rw [h]; nofun) (by rw [h]; nofun)
  rw [h] at e
  cases hnm : newMethodOf req.method st with
  | none =>
    rw [hnm] at e
    cases e
  | some nm =>
    rw [hnm] at e
    exact ⟨locB, loc, st, uri, nm, R, hnm, FollowRes.flow.inj e⟩

theorem asNewFlow_flow {f : Flow} {sameHost : Bool} {nf : Flow} (h : (f.asNewFlow sameHost).2 = .flow nf) :
    ∃ locB loc st uri nm, Resolved f.call.req f.location f.status locB loc st uri ∧
      newMethodOf f.call.req.method st = some nm ∧ nf = followFlow f.call.req nm uri sameHost :=
  followRes_flow ((asNewFlow_res f sameHost).symm.trans h)

theorem followRes_none {req : AReq} {location : Option Bytes} {status : Option Nat} {sameHost : Bool}
    (h : followRes req location status sameHost = .none) :
    ∃ locB loc st uri, Resolved req location status locB loc st uri ∧ newMethodOf req.method st = none := by
  obtain ⟨locB, loc, st, uri, R, e⟩ := followRes_inv (by rw [h]; nofun) (by rw [h]; nofun)
  rw [h] at e
  cases hnm : newMethodOf req.method st with
  | none => exact ⟨locB, loc, st, uri, R, hnm⟩
  | some nm =>
    rw [hnm] at e
    cases e

theorem followRes_noPanic {req : AReq} {location : Option Bytes} {status : Option Nat} {sameHost : Bool}
    (hs : status.isSome = true) (hnt : req.taken = false) (s : String) :
    followRes req location status sameHost ≠ .fault (.panic s) := by
  obtain ⟨st, rfl⟩ := Option.isSome_iff_exists.mp hs
  unfold followRes
  simp only [hnt, Bool.false_eq_true, if_false]
  repeat' split
  all_goals nofun

theorem followFlow_bodiless {nm : Method} (hnb : nm.needBody = false) (prev : AReq) (uri : Uri) (sameHost : Bool) :
    (followFlow prev nm uri sameHost).holder = .withoutBody ∧
    (followFlow prev nm uri sameHost).shouldSendBody = false ∧
    (followFlow prev nm uri sameHost).call.writer = BodyWriter.newNone := by
  simp [followFlow, Flow.new, hnb]
