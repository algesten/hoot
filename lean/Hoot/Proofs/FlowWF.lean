import Hoot.Proofs.FlowInv
import Hoot.Proofs.ChunkTotal

theorem noPanic_fault {α : Type} {r : Except Fault α} {e : Fault} (h : ∀ s, r ≠ .error (.panic s)) (he : r = .error e) :
    noPanic (.fault e) := by
  cases e with
  | api k => rfl
  | panic s => exact absurd he (h s)

theorem noPanic_canProceed {f : Flow} (hwf : f.WF) : noPanic (resOfBool f.canProceed) := by
  obtain ⟨b, hb⟩ := canProceed_ok f hwf
  rw [hb]
  rfl

theorem wf_proceed (hack : Bool) (f : Flow) (hwf : f.WF) :
    noPanic (f.step hack .proceed).2 ∧ (f.step hack .proceed).1.WF := by
  rcases hwf.proceed hack with ⟨_, e⟩ | ⟨_, g, e, _, hg⟩ | ⟨_, e⟩
  · rw [e]
    exact ⟨rfl, hwf⟩
  · rw [e]
    exact ⟨rfl, hg⟩
  · rw [e]
    exact ⟨rfl, hwf⟩

theorem wf_stepPrepare (f : Flow) (op : Op) (hwf : f.WF) (hs : f.st = .prepare) (hok : op.okFor f) :
    noPanic (stepPrepare f op).2 ∧ (stepPrepare f op).1.WF := by
  have hna : f.call.analyzed = false := (hwf.prep hs).1
  have hhold : f.holder = .withoutBody ∨ f.holder = .withBody := by simpa [holderOk, hs] using hwf.holder
  cases op
  case proceed => exact flow_step_prepare hs ▸ wf_proceed false f hwf
  all_goals simp only [stepPrepare, notOffered] <;> (try (exact ⟨rfl, hwf⟩))
  case header h =>
    split
    · exact ⟨rfl, hwf⟩
    · have hl : f.call.req.added.length + 3 ≤ MAX_EXTRA := hok
      rw [setHeader_ok _ h (by omega)]
      -- `Op.okFor` leaves room for the two headers request analysis may add
      exact ⟨rfl, { hwf with
        cap := .inr (by simp; omega)
        hdrs := fun ha => by simp [hna] at ha }⟩
  case despite =>
    split
    · split
      · rename_i ha
        simp [hna] at ha
      · exact ⟨rfl, { hwf with
          holder := by simp [holderOk, hs]
          send := fun _ => by simp
          nobody := nofun
          body := fun _ => by simp [BodyWriter.newChunked]
          aw := fun _ _ => rfl }⟩
    · rename_i hh
      have hwb : f.holder = .withBody := hhold.resolve_left (by simpa using hh)
      exact ⟨rfl, { hwf with
        send := fun _ => by simp [hwb]
        aw := fun _ _ => rfl }⟩

theorem writePrelude_keeps (c : CallSt) (w : W) (han : c.analyzed = true) (hhd : c.req.headers ≠ []) :
    (∀ s, (writePrelude c w).2.2 ≠ .error (.panic s)) ∧ CallKeeps c (writePrelude c w).1 := by
  obtain ⟨⟨ph, e, hph⟩, hnp⟩ := writePrelude_frame c w
  rw [e]
  exact ⟨hnp hhd,
    { inv := ⟨.inl han, fun _ => hhd, fun _ => han⟩
      reader := rfl
      skip := rfl
      stop := rfl
      meth := rfl
      mode := id
      none := fun _ _ => id
      prel := hph }⟩

theorem writeNoBody_keeps (c : CallSt) (cap : Nat) (h : CallInv c) :
    (∀ s, (c.writeNoBody cap).2 ≠ .error (.panic s)) ∧ CallKeeps c (c.writeNoBody cap).1 := by
  obtain ⟨a1, k1, a2⟩ := analyzeRequest_spec c h
  have hph := analyzeRequest_phase c
  unfold CallSt.writeNoBody
  rcases hq : c.analyzeRequest with ⟨c1, r1⟩
  rw [hq] at a1 k1 a2 hph
  cases r1 with
  | error e => exact ⟨fun s he => a1 s (by simpa using he), k1⟩
  | ok u =>
    obtain ⟨p1, k2⟩ := writePrelude_keeps c1 { out := [], cap := cap } (a2 rfl).1 (a2 rfl).2
    cases u
    dsimp only
    rcases hw : writePrelude c1 { out := [], cap := cap } with ⟨c2, w2, r2⟩
    rw [hw] at p1 k2
    cases r2 with
    | error e => exact ⟨fun s he => p1 s (by simpa using he), k1.trans k2 hph⟩
    | ok u2 => exact ⟨nofun, k1.trans k2 hph⟩

theorem bodyWrite_mode (bw : BodyWriter) (input : Bytes) (w : W) (hm : bw.mode ≠ .none) :
    (bw.write input w).1.mode ≠ .none ∧ (∀ s, (bw.write input w).2.2 ≠ .error (.panic s)) := by
  unfold BodyWriter.write
  cases hmm : bw.mode with
  | none => exact absurd hmm hm
  | sized left => simp
  | chunked =>
    simp only []
    split
    · split <;> simp [hmm]
    · simp [hmm]

theorem writeBodyPhase_keeps (c : CallSt) (input : Bytes) (cap : Nat) (hm : c.writer.mode ≠ .none) :
    (∀ s, (c.writeBodyPhase input cap).2 ≠ .error (.panic s)) ∧
    ∃ bw, (c.writeBodyPhase input cap).1 = { c with writer := bw } ∧ bw.mode ≠ .none := by
  unfold CallSt.writeBodyPhase
  by_cases g1 : (!input.isEmpty && c.writer.ended) = true
  · simp only [g1, if_true]
    exact ⟨nofun, c.writer, rfl, hm⟩
  · simp only [g1, Bool.false_eq_true, if_false]
    by_cases g2 : c.writer.overLimit input.length = true
    · simp only [g2, if_true]
      exact ⟨nofun, c.writer, rfl, hm⟩
    · simp only [g2, Bool.false_eq_true, if_false]
      obtain ⟨m1, m2⟩ := bodyWrite_mode c.writer input { out := [], cap := cap } hm
      rcases hw : c.writer.write input { out := [], cap := cap } with ⟨bw, w2, r⟩
      rw [hw] at m1 m2
      simp only [] at m1 m2
      cases r with
      | ok n => exact ⟨nofun, bw, rfl, m1⟩
      | error e => exact ⟨fun s he => m2 s (by simpa using he), bw, rfl, m1⟩

theorem wf_stepSendRequest (f : Flow) (op : Op) (hwf : f.WF) (hs : f.st = .sendRequest) :
    noPanic (stepSendRequest f op).2 ∧ (stepSendRequest f op).1.WF := by
  have hhold : f.holder = .withoutBody ∨ f.holder = .withBody := by simpa [holderOk, hs] using hwf.holder
  cases op
  case proceed => exact flow_step_sendRequest hs ▸ wf_proceed false f hwf
  all_goals simp only [stepSendRequest, notOffered] <;> (try (exact ⟨rfl, hwf⟩))
  case write cap =>
    obtain ⟨p1, p2⟩ := writeNoBody_keeps f.call cap (callInv_of_wf f hwf)
    have hwf' := hwf.setCall p2 hs
    split
    · rcases hw : f.call.writeNoBody cap with ⟨c', r⟩
      rw [hw] at p1 hwf'
      cases r with
      | ok out => exact ⟨rfl, hwf'⟩
      | error e => exact ⟨noPanic_fault p1 rfl, hwf'⟩
    · split
      · exact ⟨rfl, hwf⟩
      · rename_i hp
        rw [writeBody_prelude f.call [] cap (by simpa using hp)]
        rcases hw : f.call.writeNoBody cap with ⟨c', r⟩
        rw [hw] at p1 hwf'
        cases r with
        | ok out => exact ⟨rfl, hwf'⟩
        | error e => exact ⟨noPanic_fault p1 rfl, hwf'⟩
    · rename_i h1 h2
      exact (hhold.elim h1 h2).elim
  case canProceed => exact ⟨noPanic_canProceed hwf, hwf⟩

theorem tryParseResponse_noPanic (N : Nat) (w : Bytes) (s : String) : tryParseResponse N w ≠ .error (.panic s) := by
  unfold tryParseResponse
  repeat' split
  all_goals nofun

theorem wf_stepAwait100 (f : Flow) (op : Op) (hwf : f.WF) (hs : f.st = .await100) (hok : op.okFor f) :
    noPanic (stepAwait100 f op).2 ∧ (stepAwait100 f op).1.WF := by
  cases op
  case proceed => exact flow_step_await100 hs ▸ wf_proceed false f hwf
  case read100 w =>
    by_cases hr : refuses w
    · obtain ⟨l, hnd, _, e⟩ := refuse100_spec { f with await100 := false } hwf.nodup
      rw [await_refused f w hr, e]
      exact ⟨rfl, { hwf with
        nodup := hnd
        send := fun e => by simp [hs] at e
        aw := fun _ => nofun }⟩
    · rw [await_not_refused f w hr]
      cases hp : tryParseResponse 0 w with
      | ok v =>
        cases v with
        | none => exact ⟨rfl, hwf⟩
        | some p =>
          dsimp only
          rw [if_pos (hwf.aw hs hok)]
          exact ⟨rfl, hwf.clearAwait⟩
      | error e => exact ⟨noPanic_fault (tryParseResponse_noPanic 0 w) hp, hwf.clearAwait⟩
  all_goals simp only [stepAwait100, notOffered] <;> exact ⟨rfl, hwf⟩

theorem wf_stepSendBody (f : Flow) (op : Op) (hwf : f.WF) (hs : f.st = .sendBody) :
    noPanic (stepSendBody f op).2 ∧ (stepSendBody f op).1.WF := by
  have hhold : f.holder = .withBody := by simpa [holderOk, hs] using hwf.holder
  have hne : (f.holder != Holder.withBody) = false := by simp [hhold]
  cases op
  case proceed => exact flow_step_sendBody hs ▸ wf_proceed false f hwf
  all_goals simp only [stepSendBody, hne, Bool.false_eq_true, if_false, notOffered] <;> (try (exact ⟨rfl, hwf⟩))
  case bwrite input cap =>
    obtain ⟨p1, bw, e, hm⟩ := writeBodyPhase_keeps f.call input cap (hwf.body hhold)
    rw [writeBody_sendBody input cap (hwf.sbody hs).2 (hwf.sbody hs).1]
    rcases hw : f.call.writeBodyPhase input cap with ⟨c', r⟩
    rw [hw] at p1 e
    cases e
    cases r with
    | ok v => exact ⟨rfl, hwf.setWriter hhold hm⟩
    | error e => exact ⟨noPanic_fault p1 rfl, hwf.setWriter hhold hm⟩
  case direct n =>
    unfold CallSt.consumeDirect
    split
    · split
      · exact ⟨rfl, hwf⟩
      · exact ⟨rfl, hwf.setWriter hhold nofun⟩
    · exact ⟨rfl, hwf⟩
  case canProceed => exact ⟨noPanic_canProceed hwf, hwf⟩

theorem forResponse_cases (h10 : Bool) (m : Method) (st : Nat) (hs : List Hdr) :
    forResponse h10 m st hs = .error (.api .badContentLengthHeader) ∨
    ∃ rd, forResponse h10 m st hs = .ok rd ∧ rd ≠ .chunked .trailer := by
  unfold forResponse forResponseAbs
  split
  · exact .inl rfl
  · refine .inr ⟨_, rfl, ?_⟩
    intro e
    (repeat' split at e) <;> cases e

theorem partialFinish_noPanic (v c : Option Nat) (fs : List (Bytes' × Bytes')) (s : String) :
    partialFinish v c fs ≠ .error (.panic s) := by
  unfold partialFinish
  repeat' split
  all_goals nofun

theorem tryParsePartial_noPanic (N : Nat) (w : Bytes) (s : String) : tryParsePartial N w ≠ .error (.panic s) := by
  unfold tryParsePartial
  split
  · nofun
  · nofun
  · exact partialFinish_noPanic _ _ _ s
  · exact partialFinish_noPanic _ _ _ s

theorem parseWithFallback_noPanic (hack : Bool) (w : Bytes) (s : String) :
    parseWithFallback hack w ≠ .error (.panic s) := by
  unfold parseWithFallback
  split
  · rename_i f hp
    exact fun e => tryParseResponse_noPanic 128 w s (hp.trans e)
  · nofun
  · split
    · nofun
    · split
      · rename_i f hq
        exact fun e => tryParsePartial_noPanic 128 w s (hq.trans (congrArg Except.error (Except.error.inj e)))
      · nofun
      · split <;> nofun

theorem callTryResponse_spec (hack : Bool) (c : CallSt) (w : Bytes) :
    (∀ s, (callTryResponse hack c w).2 ≠ .error (.panic s)) ∧
    ((callTryResponse hack c w).1 = c ∨
      ∃ u r rd, (callTryResponse hack c w).2 = .ok (some (u, r)) ∧ (r.status == 100) = false ∧
        rd ≠ .chunked .trailer ∧ (callTryResponse hack c w).1 = { c with reader := some rd }) := by
  have hnp := parseWithFallback_noPanic hack w
  unfold callTryResponse
  cases hp : parseWithFallback hack w with
  | error f => exact ⟨fun s e => hnp s (by rw [hp]; simpa using e), .inl rfl⟩
  | ok v =>
    cases v with
    | none => exact ⟨nofun, .inl rfl⟩
    | some p =>
      obtain ⟨used, r⟩ := p
      dsimp only
      split
      · split
        · exact ⟨nofun, .inl rfl⟩
        · exact ⟨nofun, .inl rfl⟩
      · rename_i h100
        rcases forResponse_cases (r.version == 0) c.req.method r.status r.fields with hf | ⟨rd, hf, hrd⟩
        · rw [hf]
          exact ⟨nofun, .inl rfl⟩
        · rw [hf]
          exact ⟨nofun, .inr ⟨used, r, rd, rfl, by simpa using h100, hrd, rfl⟩⟩

theorem wf_stepRecvResponse (hack : Bool) (f : Flow) (op : Op) (hwf : f.WF) (hs : f.st = .recvResponse) :
    noPanic (stepRecvResponse hack f op).2 ∧ (stepRecvResponse hack f op).1.WF := by
  have hhold : f.holder = .recvResponse := by simpa [holderOk, hs] using hwf.holder
  cases op
  case proceed => exact flow_step_recvResponse hs ▸ wf_proceed hack f hwf
  case resp w =>
    rw [stepRecvResponse_resp hack w hhold hwf.nodup]
    obtain ⟨p1, p2⟩ := callTryResponse_spec hack f.call w
    rcases hq : callTryResponse hack f.call w with ⟨c1, r1⟩
    rw [hq] at p1 p2
    rcases p2 with rfl | ⟨u, r, rd, rfl, h100, hrd, rfl⟩
    · -- the call is untouched
      rcases r1 with e | _ | ⟨used, r⟩
      · exact ⟨noPanic_fault p1 rfl, hwf⟩
      · exact ⟨rfl, hwf⟩
      · dsimp only
        split
        · exact ⟨rfl, hwf.clearAwait⟩
        · -- the step also sets `location`, which no field of `Flow.WF` reads: `{ · with }` carries the fields over
          exact ⟨rfl, { (hwf.setReader (s := some r.status) f.call.stopBoundary id (fun _ => rfl) hwf.trl).setReasons
            (pushReason_if _ _ _ hwf.nodup).1 with }⟩
    · -- a response other than 100 is handed out with its body reader installed
      simp only [h100, Bool.false_and, Bool.false_eq_true, if_false]
      exact ⟨rfl, { (hwf.setReader (r := some rd) (s := some r.status) f.call.stopBoundary (fun _ => rfl) (fun _ => rfl)
        (by simpa using hrd)).setReasons (pushReason_if _ _ _ hwf.nodup).1 with }⟩
  all_goals simp only [stepRecvResponse, notOffered] <;> (try (exact ⟨rfl, hwf⟩))
  case canProceed => exact ⟨noPanic_canProceed hwf, hwf⟩

theorem read_spec (c : CallSt) (rd : BodyReader) (hr : c.reader = some rd) (htr : rd ≠ .chunked .trailer)
    (w : Bytes) (cap : Nat) :
    (∃ rd', rd' ≠ .chunked .trailer ∧ (c.read w cap).1 = { c with reader := some rd' }) ∧
    match (c.read w cap).2 with
    | .error (.panic _) => False
    | .error (.api _) => True
    | .ok (n, out) => n ≤ w.length ∧ out.length ≤ cap ∧ out.Sublist (w.take n) := by
  have hc : c = { c with reader := some rd } := by rw [← hr]
  unfold CallSt.read
  simp only [hr]
  split
  · exact ⟨⟨rd, htr, hc⟩, by simp⟩
  · cases rd with
    | noBody => exact ⟨⟨_, htr, hc⟩, by simp⟩
    | len left =>
      refine ⟨⟨.len _, nofun, rfl⟩, ?_, ?_, List.Sublist.refl _⟩
      · omega
      · simp only [List.length_take]
        omega
    | close =>
      refine ⟨⟨_, htr, hc⟩, ?_, ?_, List.Sublist.refl _⟩
      · omega
      · simp only [List.length_take]
        omega
    | chunked d =>
      dsimp only
      have hg := readChunkedS_total (w.length + 2) d w cap c.stopBoundary (fun e => htr (e ▸ rfl)) (by omega)
      rcases hq : readChunkedS (w.length + 2) d w cap c.stopBoundary with ⟨d', r⟩
      rw [hq] at hg
      obtain ⟨g1, g2⟩ := hg
      have hd' : BodyReader.chunked d' ≠ .chunked .trailer := by simpa using g1
      cases r with
      | error e =>
        refine ⟨⟨_, hd', rfl⟩, ?_⟩
        cases e <;> simp [toFault] at g2 ⊢
      | ok p => exact ⟨⟨_, hd', rfl⟩, g2⟩

theorem wf_stepRecvBody (f : Flow) (op : Op) (hwf : f.WF) (hs : f.st = .recvBody) :
    noPanic (stepRecvBody f op).2 ∧ (stepRecvBody f op).1.WF := by
  have hhold : f.holder = .recvBody := by simpa [holderOk, hs] using hwf.holder
  have hrd : f.call.reader.isSome = true := hwf.rdr (.inl hs)
  cases op
  case proceed => exact flow_step_recvBody hs ▸ wf_proceed false f hwf
  all_goals simp only [stepRecvBody, notOffered] <;> (try (exact ⟨rfl, hwf⟩))
  case bread w cap =>
    have hne : (f.holder != Holder.recvBody) = false := by simp [hhold]
    simp only [hne, Bool.false_eq_true, if_false]
    obtain ⟨rd, hr⟩ := Option.isSome_iff_exists.mp hrd
    obtain ⟨⟨rd', ht, hc⟩, hm⟩ := read_spec f.call rd hr (fun e => hwf.trl (e ▸ hr)) w cap
    have hwf' : ({ f with call := (f.call.read w cap).1 } : Flow).WF := by
      rw [hc]
      exact hwf.setReader f.call.stopBoundary (fun _ => rfl) (fun _ => hwf.stat hrd) (by simpa using ht)
    rcases hq : f.call.read w cap with ⟨c', r⟩
    rw [hq] at hm hwf'
    cases r with
    | ok v => exact ⟨rfl, hwf'⟩
    | error e =>
      cases e with
      | api k => exact ⟨rfl, hwf'⟩
      | panic site => exact hm.elim
  case stopb b => exact ⟨rfl, hwf.setReader b id hwf.stat hwf.trl⟩
  case canProceed => exact ⟨noPanic_canProceed hwf, hwf⟩

theorem wf_stepRedirect (f : Flow) (op : Op) (hwf : f.WF) (hs : f.st = .redirect) :
    noPanic (stepRedirect f op).2 ∧ (stepRedirect f op).1.WF := by
  cases op
  case proceed => exact flow_step_redirect hs ▸ wf_proceed false f hwf
  all_goals simp only [stepRedirect, notOffered] <;> (try (exact ⟨rfl, hwf⟩))
  case statusQ =>
    obtain ⟨v, hv⟩ := Option.isSome_iff_exists.mp (hwf.stat (hwf.rdr (.inr (.inl hs))))
    rw [hv]
    exact ⟨rfl, hwf⟩

theorem wf_stepCleanup (f : Flow) (op : Op) (hwf : f.WF) :
    noPanic (stepCleanup f op).2 ∧ (stepCleanup f op).1.WF := by
  unfold stepCleanup
  cases op <;> simp only [notOffered] <;> exact ⟨rfl, hwf⟩

/-- **C09 / C12: every public operation on a well-formed flow returns without panicking and leaves a well-formed
    flow**, in every state, for arbitrary byte arguments and buffer sizes. -/
theorem wf_step (hack : Bool) (f : Flow) (op : Op) (hwf : f.WF) (hok : op.okFor f) :
    noPanic (f.step hack op).2 ∧ (f.step hack op).1.WF := by
  unfold Flow.step
  cases hs : f.st with
  | prepare => exact wf_stepPrepare f op hwf hs hok
  | sendRequest => exact wf_stepSendRequest f op hwf hs
  | await100 => exact wf_stepAwait100 f op hwf hs hok
  | sendBody => exact wf_stepSendBody f op hwf hs
  | recvResponse => exact wf_stepRecvResponse hack f op hwf hs
  | recvBody => exact wf_stepRecvBody f op hwf hs
  | redirect => exact wf_stepRedirect f op hwf hs
  | cleanup => exact wf_stepCleanup f op hwf
