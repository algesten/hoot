import Hoot.Model.HeadersMap

/-! Facts about `headersMapOf`: it is a sub-collection of the effective headers with exactly one entry per
name that occurs, and that entry is the last header of the name. -/

theorem lastNamed_mem {hs : List Hdr} {n : String} {h : Hdr} (e : lastNamed hs n = some h) :
    h ∈ hs ∧ h.name = n := by
  unfold lastNamed at e
  have := List.mem_of_getLast? e
  simpa using this

theorem lastNamed_isSome {hs : List Hdr} {n : String} (hn : ∃ h ∈ hs, h.name = n) :
    ∃ h, lastNamed hs n = some h := by
  obtain ⟨h, hm, rfl⟩ := hn
  apply Option.isSome_iff_exists.mp
  rw [lastNamed, List.getLast?_isSome]
  exact List.ne_nil_of_mem (List.mem_filter.mpr ⟨hm, beq_self_eq_true _⟩)

theorem mem_headersMapOf {hs : List Hdr} {h : Hdr} :
    h ∈ headersMapOf hs ↔ lastNamed hs h.name = some h := by
  unfold headersMapOf
  simp only [List.mem_filterMap, List.mem_mergeSort, List.mem_eraseDups, List.mem_map]
  constructor
  · rintro ⟨n, _, e⟩
    rwa [(lastNamed_mem e).2]
  · intro e
    exact ⟨h.name, ⟨h, (lastNamed_mem e).1, rfl⟩, e⟩

theorem headersMapOf_sub {hs : List Hdr} {h : Hdr} (hin : h ∈ headersMapOf hs) : h ∈ hs :=
  (lastNamed_mem (mem_headersMapOf.mp hin)).1

theorem headersMapOf_complete {hs : List Hdr} {n : String} (hn : ∃ h ∈ hs, h.name = n) :
    ∃ h ∈ headersMapOf hs, h.name = n := by
  obtain ⟨x, e⟩ := lastNamed_isSome hn
  have hx := (lastNamed_mem e).2
  exact ⟨x, mem_headersMapOf.mpr (by rwa [hx]), hx⟩

theorem headersMapOf_unique {hs : List Hdr} {a b : Hdr} (ha : a ∈ headersMapOf hs) (hb : b ∈ headersMapOf hs)
    (e : a.name = b.name) : a = b := by
  have h1 := mem_headersMapOf.mp ha
  have h2 := mem_headersMapOf.mp hb
  rw [e, h2] at h1
  exact (Option.some.inj h1).symm

theorem headersMap_ok {c c1 : CallSt} {m : List Hdr} (hm : c.headersMap = (c1, .ok m)) :
    c1 = c.analyzeRequest.1 ∧ m = headersMapOf c.analyzeRequest.1.req.headers := by
  unfold CallSt.headersMap at hm
  split at hm
  · rename_i c' e
    cases hm
    rw [e]
    exact ⟨rfl, rfl⟩
  · cases hm
