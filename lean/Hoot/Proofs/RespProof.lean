import Hoot.Proofs.FieldLine

/-! forward simulation of the response scanner on well-formed heads -/

def RState.at (s : RState) (p : RPhase) : RState := { s with phase := p }

@[simp] theorem at_fields (s : RState) (p) : (s.at p).fields = s.fields := rfl
@[simp] theorem at_slots (s : RState) (p) : (s.at p).slots = s.slots := rfl
@[simp] theorem at_version (s : RState) (p) : (s.at p).version = s.version := rfl
@[simp] theorem at_code (s : RState) (p) : (s.at p).code = s.code := rfl
@[simp] theorem at_phase (s : RState) (p) : (s.at p).phase = p := rfl
@[simp] theorem at_at (s : RState) (p q) : (s.at p).at q = s.at q := rfl

set_option linter.unusedVariables false in
theorem nameTok_ne_colon {b : UInt8} (h : isNameTok b = true) : True := trivial

theorem respFieldSteps (s : RState) :
    FieldSteps respStep (fun done p => { s with phase := p, fields := done }) s.slots where
  start h := by simp [respStep, h, ne_of_tok h (c := 13) (by decide), ne_of_tok h (c := 10) (by decide)]
  name h := by simp [respStep, h]
  colon := rfl
  ows h := by simp [respStep, h]
  first h hw := by simp [respStep, h, hw]
  emptyCR := rfl
  value h := by simp [respStep, h]
  valueCR := rfl
  emptyLF := rfl
  valueLF := rfl

/-- `ph s.fields p` of `respFieldSteps s` is `s.at p` -/
theorem run_field_body (s : RState) (f : Field) (hf : f.wf) (rest : Bytes') (k : Nat) :
    runFrom respStep (s.at .lineStart) (f.body ++ rest) k = runFrom respStep (s.at f.atCR) rest (k + f.body.length) :=
  (respFieldSteps s).run_body s.fields f hf rest k

theorem run_field_no_slot (s : RState) (f : Field) (hf : f.wf) (hslot : ¬ s.fields.length < s.slots)
    (rest : Bytes') (k : Nat) :
    runFrom respStep (s.at .lineStart) (f.enc ++ rest) k = .error .tooManyHeaders :=
  ((respFieldSteps s).run_line s.fields f hf rest k).trans (if_neg hslot)

theorem run_end (s : RState) (v c : Nat) (hv : s.version = some v) (hc : s.code = some c) (rest : Bytes') (k : Nat) :
    runFrom respStep (s.at .lineStart) (13 :: 10 :: rest) k =
      .complete { version := v, code := c, fields := s.fields } (k + 2) := by
  have h1 : respStep (s.at .lineStart) 13 = .next (s.at .endCR) := rfl
  rw [runFrom_cons_next h1]
  simp [runFrom, respStep, RState.at, finish, hv, hc]

/-- `HTTP/1.`, the minor version digit and the SP behind it -/
theorem run_version (s : RState) (ver : Nat) (hver : ver ≤ 1) (rest : Bytes') (k : Nat) :
    runFrom respStep (s.at .skipEmpty) (72 :: 84 :: 84 :: 80 :: 47 :: 49 :: 46 :: (48 + ver).toUInt8 :: 32 :: rest) k =
      runFrom respStep ({ s with version := some ver }.at (.code 0 0)) rest (k + 9) := by
  obtain rfl | rfl : ver = 0 ∨ ver = 1 := by omega
  · rfl
  · rfl

theorem respStep_code (s : RState) (i acc : Nat) {b : UInt8} (hb : isDigit b) :
    respStep (s.at (.code i acc)) b =
      if i < 2 then .next (s.at (.code (i + 1) (acc * 10 + (b.toNat - 48))))
      else .next ({ s with code := some (acc * 10 + (b.toNat - 48)) }.at .afterCode) := by
  simp [respStep, RState.at, hb.1, hb.2]

theorem run_code (s : RState) {d1 d2 d3 : UInt8} (h1 : isDigit d1) (h2 : isDigit d2) (h3 : isDigit d3)
    (rest : Bytes') (k : Nat) :
    runFrom respStep (s.at (.code 0 0)) (d1 :: d2 :: d3 :: rest) k =
      runFrom respStep
        ({ s with code := some (((0 * 10 + (d1.toNat - 48)) * 10 + (d2.toNat - 48)) * 10 + (d3.toNat - 48)) }.at .afterCode)
        rest (k + 3) := by
  rw [runFrom_cons_next ((respStep_code s 0 _ h1).trans (if_pos (by decide))),
    runFrom_cons_next ((respStep_code s 1 _ h2).trans (if_pos (by decide))),
    runFrom_cons_next ((respStep_code s 2 _ h3).trans (if_neg (by decide)))]

theorem respStep_reason (s : RState) {b : UInt8} (hb : isReasonTok b = true) :
    respStep (s.at .reason) b = .next (s.at .reason) := by
  simp [respStep, RState.at, hb, ne_of_tok hb (c := 13) (by decide), ne_of_tok hb (c := 10) (by decide)]

theorem run_reason (s : RState) (h : Head) (hr : ∀ r, h.reason = some r → ∀ b ∈ r, isReasonTok b = true)
    (rest : Bytes') (k : Nat) :
    runFrom respStep (s.at .afterCode) (h.reasonBytes ++ (13 :: 10 :: rest)) k =
      runFrom respStep (s.at .lineStart) rest (k + (h.reasonBytes.length + 2)) := by
  unfold Head.reasonBytes
  cases hq : h.reason with
  | none => rfl
  | some r =>
    have h32 : respStep (s.at .afterCode) 32 = .next (s.at .reason) := rfl
    have h13 : respStep (s.at .reason) 13 = .next (s.at .reasonCR) := rfl
    have h10 : respStep (s.at .reasonCR) 10 = .next (s.at .lineStart) := rfl
    rw [List.cons_append, runFrom_cons_next h32,
      runFrom_skip respStep _ r (fun b hb => respStep_reason s (hr r hq b hb)),
      runFrom_cons_next h13, runFrom_cons_next h10]
    simp only [List.length_cons]
    congr 1
    omega

def Head.between (h : Head) (slots : Nat) (done : List Field) : RState :=
  { phase := .lineStart, version := some h.ver, code := some h.codeVal, fields := done.map Field.pair, slots := slots }

theorem run_status (h : Head) (hw : h.wf) (slots : Nat) (rest : Bytes') :
    runFrom respStep (respInit slots) (h.statusLine ++ rest) 0 =
      runFrom respStep (h.between slots []) rest h.statusLine.length := by
  obtain ⟨hver, hd1, hd2, hd3, hreason, _⟩ := hw
  simp only [Head.statusLine, List.cons_append, List.nil_append, List.append_assoc]
  rw [show respInit slots = (respInit slots).at .skipEmpty from rfl, run_version _ h.ver hver,
    run_code _ hd1 hd2 hd3, run_reason _ h hreason]
  congr 1
  simp only [List.length_cons, List.length_append, List.length_nil]
  omega

/-- the whole head and every prefix that ends inside a field line are instances -/
theorem run_head (h : Head) (hw : h.wf) (slots : Nat) (fs : List Field) (hfs : ∀ f ∈ fs, f.wf)
    (hs : fs.length ≤ slots) (rest : Bytes') :
    runFrom respStep (respInit slots) (h.statusLine ++ (encFields fs ++ rest)) 0 =
      runFrom respStep (h.between slots fs) rest (h.statusLine.length + (encFields fs).length) := by
  rw [run_status h hw slots]
  -- `ph (gs.map Field.pair) .lineStart` of `respFieldSteps (h.between slots [])` is `h.between slots gs`
  exact (respFieldSteps (h.between slots [])).run_lines fs hfs [] (by simpa [Head.between] using hs) rest _

theorem resp_forward (h : Head) (hw : h.wf) (slots : Nat) (hs : h.fields.length ≤ slots) (rest : Bytes') :
    parseResp slots (h.enc ++ rest) =
      .complete { version := h.ver, code := h.codeVal, fields := h.fields.map Field.pair }
        h.enc.length := by
  unfold parseResp Head.enc
  rw [List.append_assoc, List.append_assoc, run_head h hw slots h.fields hw.fields hs]
  refine (run_end (h.between slots h.fields) h.ver h.codeVal rfl rfl rest _).trans ?_
  simp only [List.length_append, List.length_cons, List.length_nil, Nat.add_assoc]
  rfl

/-- C05/C20 core: every strict prefix of a well-formed head is "need more data" -/
theorem resp_prefix (h : Head) (hw : h.wf) (slots : Nat) (hs : h.fields.length ≤ slots) (n : Nat)
    (hn : n < h.enc.length) : ∃ st, parseResp slots (h.enc.take n) = .more st := by
  have hf := complete_prefix (resp_forward h hw slots hs []) hn
  rwa [List.append_nil] at hf

theorem resp_too_many (h : Head) (hw : h.wf) (slots : Nat) (hs : slots < h.fields.length) (rest : Bytes') :
    parseResp slots (h.enc ++ rest) = .error .tooManyHeaders := by
  unfold parseResp Head.enc
  rw [List.append_assoc, run_status h hw slots, List.append_assoc]
  exact (respFieldSteps (h.between slots [])).run_too_many h.fields hw.fields [] (Nat.zero_le slots)
    (by simpa [Head.between] using hs) _ _
