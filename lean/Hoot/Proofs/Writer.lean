import Hoot.Spec.Request

/-! the length-level arithmetic of the (repaired) chunked body writer, behind C18 / C19 -/

theorem hexLen_pos (n : Nat) : 1 ≤ hexLen n := by
  unfold hexLen
  split <;> omega

theorem hexLen_lt16 {n : Nat} (h : n < 16) : hexLen n = 1 := by
  rw [hexLen, dif_pos h]

theorem hexLen_ge16 {n : Nat} (h : 16 ≤ n) : hexLen n = 1 + hexLen (n / 16) := by
  rw [hexLen, dif_neg (Nat.not_lt.mpr h)]

theorem hexLen_mono : ∀ {a b : Nat}, a ≤ b → hexLen a ≤ hexLen b := by
  intro a b
  induction b using Nat.strongRecOn generalizing a with
  | _ b ih =>
    intro hab
    by_cases hb : b < 16
    · rw [hexLen_lt16 hb, hexLen_lt16 (by omega)]
      omega
    · by_cases ha : a < 16
      · rw [hexLen_lt16 ha]
        exact hexLen_pos b
      · rw [hexLen_ge16 (n := a) (by omega), hexLen_ge16 (n := b) (by omega)]
        have : hexLen (a / 16) ≤ hexLen (b / 16) := ih (b / 16) (by omega) (Nat.div_le_div_right hab)
        omega

theorem hexLen_le (k : Nat) : ∀ n, n < 16 ^ (k + 1) → hexLen n ≤ k + 1 := by
  induction k with
  | zero =>
    intro n h
    rw [hexLen_lt16 (by simpa using h)]
    omega
  | succ k ih =>
    intro n h
    by_cases h16 : n < 16
    · rw [hexLen_lt16 h16]
      omega
    · rw [hexLen_ge16 (by omega)]
      have := ih (n / 16) (by rw [Nat.div_lt_iff_lt_mul (by omega)]; rwa [Nat.pow_succ] at h)
      omega

theorem frameLen_mono {a b : Nat} (h : a ≤ b) : frameLen a ≤ frameLen b := by
  unfold frameLen
  have := hexLen_mono h
  omega

theorem fitDown_ok (avail : Nat) : ∀ s, fitDown avail s = 0 ∨ frameLen (fitDown avail s) ≤ avail := by
  intro s
  induction s with
  | zero => exact Or.inl rfl
  | succ s ih =>
    simp only [fitDown]
    split
    · exact ih
    · exact Or.inr (by omega)

theorem fitDown_le (avail : Nat) : ∀ s, fitDown avail s ≤ s := by
  intro s
  induction s with
  | zero => simp [fitDown]
  | succ s ih =>
    simp only [fitDown]
    split <;> omega

theorem fitDown_max (avail : Nat) : ∀ s n, n ≤ s → frameLen n ≤ avail → n ≤ fitDown avail s := by
  intro s
  induction s with
  | zero =>
    intro n hn _
    omega
  | succ s ih =>
    intro n hn hf
    simp only [fitDown]
    split
    · rename_i hgt
      by_cases hns : n ≤ s
      · exact ih n hns hf
      · have : n = s + 1 := by omega
        subst this
        omega
    · omega

theorem maxFit_ok (a : Nat) : maxFit a = 0 ∨ frameLen (maxFit a) ≤ a := fitDown_ok a _

theorem maxFit_max (a n : Nat) (hf : frameLen n ≤ a) : n ≤ maxFit a := by
  apply fitDown_max a (a - 5) n _ hf
  have := hexLen_pos n
  unfold frameLen at hf
  omega

theorem maxFit_mono {a b : Nat} (h : a ≤ b) : maxFit a ≤ maxFit b := by
  rcases maxFit_ok a with h0 | hf
  · omega
  · exact maxFit_max b _ (by omega)

theorem chunkOf_le (inLen avail : Nat) : chunkOf inLen avail ≤ inLen := by
  unfold chunkOf
  omega

theorem chunkOf_fits {inLen avail : Nat} (h : chunkOf inLen avail ≠ 0) : frameLen (chunkOf inLen avail) ≤ avail := by
  have hle : chunkOf inLen avail ≤ maxFit avail := by
    unfold chunkOf
    omega
  rcases maxFit_ok avail with h0 | hf
  · omega
  · exact Nat.le_trans (frameLen_mono hle) hf

theorem consumedLen_le (inLen avail : Nat) : consumedLen inLen avail ≤ inLen := by
  induction inLen using Nat.strongRecOn generalizing avail with
  | _ n ih =>
    rw [consumedLen]
    have hc := chunkOf_le n avail
    split
    · omega
    · split
      · have := ih (n - chunkOf n avail) (by omega) (avail - frameLen (chunkOf n avail))
        omega
      · omega

theorem C19_progress (inLen avail : Nat) (hi : 0 < inLen) (ha : 6 ≤ avail) : 0 < consumedLen inLen avail := by
  have h1 : 1 ≤ maxFit avail := maxFit_max avail 1 (by unfold frameLen; rw [hexLen_lt16 (by omega)]; omega)
  rw [consumedLen]
  have : chunkOf inLen avail ≠ 0 := by
    unfold chunkOf MAXC
    omega
  simp only [this, if_false]
  split <;> omega

theorem C19_mono {a b : Nat} (avail : Nat) (h : a ≤ b) : consumedLen a avail ≤ consumedLen b avail := by
  induction a using Nat.strongRecOn generalizing b avail with
  | _ a ih =>
    rw [consumedLen.eq_1 a, consumedLen.eq_1 b]
    unfold chunkOf
    generalize min MAXC (maxFit avail) = M
    by_cases hM : a ≤ M
    · -- `a` goes out as one chunk, and `b` sends at least `min b M ≥ a`
      rw [Nat.min_eq_left hM]
      split
      · omega
      · rw [if_neg (Nat.lt_irrefl a)]
        split
        · omega
        · split <;> omega
    · -- both send a chunk of `M` and go on with what is left
      rw [Nat.min_eq_right (by omega), Nat.min_eq_right (by omega)]
      split
      · exact Nat.le_refl 0
      · rw [if_pos (by omega), if_pos (by omega)]
        have := ih (a - M) (by omega) (avail - frameLen M) (show a - M ≤ b - M by omega)
        omega

/-- a full chunk: four hex digits, two CRLFs, 10240 bytes of data -/
theorem frameLen_10240 : frameLen 10240 = 10248 := by
  rw [frameLen, hexLen_ge16 (by omega), hexLen_ge16 (by omega), hexLen_ge16 (by omega), hexLen_lt16 (by omega)]

theorem chunk_full {inLen avail : Nat} (hi : 10240 ≤ inLen) (ha : 10248 ≤ avail) : chunkOf inLen avail = 10240 := by
  have : 10240 ≤ maxFit avail := maxFit_max avail 10240 (by rwa [frameLen_10240])
  unfold chunkOf MAXC
  omega

theorem chunk_all {inLen avail : Nat} (hi : inLen ≤ 10240) (ha : inLen + 8 ≤ avail) : chunkOf inLen avail = inLen := by
  have : inLen ≤ maxFit avail := maxFit_max avail inLen (by
    unfold frameLen
    have := hexLen_le 3 inLen (by omega)
    omega)
  unfold chunkOf MAXC
  omega

theorem blk_sub (k x c : Nat) : (k + 1) * c + x - c = k * c + x := by
  rw [Nat.succ_mul]
  omega

/-- `k` full chunks and a last one of `t` bytes go out in one write when there is room for their frames -/
theorem consumed_blocks (k t r : Nat) (ht : t ≤ 10240) (hr : t = 0 ∨ t + 8 ≤ r) :
    consumedLen (k * 10240 + t) (k * 10248 + r) = k * 10240 + t := by
  induction k with
  | zero =>
    simp only [Nat.zero_mul, Nat.zero_add]
    rw [consumedLen]
    rcases hr with h0 | hfit
    · subst h0
      simp [chunkOf]
    · rw [chunk_all ht hfit]
      split
      · omega
      · rw [if_neg (Nat.lt_irrefl t)]
  | succ k ih =>
    rw [consumedLen, chunk_full (by omega) (by omega), frameLen_10240, blk_sub, blk_sub, ih, if_neg (by omega)]
    split <;> omega

/-- C18: the advertised maximum input for an n-byte buffer is consumed completely by one write -/
theorem C18_fits (n : Nat) : consumedLen (calcMaxInput n) n = calcMaxInput n := by
  have hn : n / 10248 * 10248 + n % 10248 = n := by
    have := Nat.div_add_mod n 10248
    omega
  have h := consumed_blocks (n / 10248) (if n % 10248 ≤ 8 then 0 else n % 10248 - 8) (n % 10248)
    (by split <;> omega) (by split <;> omega)
  rwa [hn] at h
