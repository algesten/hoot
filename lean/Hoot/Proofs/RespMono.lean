import Hoot.Proofs.RespProof

/-! Monotonicity of the response scanner: once set, version and code never change, and the list of completed
    fields only grows at its end, and only on LF. Hence the scanner state after a strict prefix of a
    well-formed head agrees with the head as far as it has got (C20; C05 with the redirect fallback; C11). -/

/-- how far the status line has been read: before the version digit, before the status code, after both -/
def RPhase.rank : RPhase → Nat
  | .skipEmpty | .skipEmptyLF | .ver _ => 0
  | .verSpace | .code _ _ => 1
  | _ => 2

inductive RShape (s : RState) (b : UInt8) : StepR RState RDone HErr → Prop
  | move (p : RPhase) : p.rank = s.phase.rank → RShape s b (.next (s.at p))
  | version (v : Nat) : s.phase.rank = 0 → RShape s b (.next { s with phase := .verSpace, version := some v })
  | code (c : Nat) : s.phase.rank = 1 → RShape s b (.next { s with phase := .afterCode, code := some c })
  | field (x : Bytes' × Bytes') : b = 10 →
      RShape s b (.next { s with phase := .lineStart, fields := s.fields ++ [x] })
  | done (r : RDone) : RShape s b (.done r)
  | err (e : HErr) : RShape s b (.err e)

theorem RShape.ite {s : RState} {b : UInt8} {c : Prop} [Decidable c] {x y : StepR RState RDone HErr}
    (hx : c → RShape s b x) (hy : ¬ c → RShape s b y) : RShape s b (if c then x else y) := by
  split
  · exact hx ‹_›
  · exact hy ‹_›

theorem RShape.of_finish (s : RState) (b : UInt8) : RShape s b (finish s) := by
  unfold finish
  split
  · exact .done _
  · exact .err _

/-- a field is recorded only on LF -/
theorem RShape.of_endField (s : RState) {b : UInt8} (nm v : Bytes') (hb : b = 10) : RShape s b (endField s nm v) := by
  unfold endField
  exact .ite (fun _ => .field _ hb) (fun _ => .err _)

theorem respStep_shape (s : RState) (b : UInt8) : RShape s b (respStep s b) := by
  obtain ⟨phase, version, code, fields, slots⟩ := s
  -- in every phase `respStep` is a cascade of `if`s, which `RShape.ite` walks down (`with_reducible`: not into
  -- `endField`). The leaves: `finish`; the end of a field line, always behind `b == 10`; a result written out, which
  -- is one of the constructors as it stands
  cases phase <;> simp only [respStep, beq_iff_eq] <;>
    (repeat' with_reducible refine RShape.ite (fun _ => ?_) (fun _ => ?_)) <;>
    first
      | exact RShape.of_finish _ _
      | exact RShape.of_endField _ _ _ ‹b = 10›
      | (constructor <;> rfl)

/-- reachable-state invariant: what has not been scanned yet is not set -/
def RState.Inv (s : RState) : Prop := (s.phase.rank < 1 → s.version = none) ∧ (s.phase.rank < 2 → s.code = none)

theorem RState.Inv.init (slots : Nat) : (respInit slots).Inv := ⟨fun _ => rfl, fun _ => rfl⟩

theorem RState.Inv.of_late {s : RState} (h : s.phase.rank = 2) : s.Inv := ⟨fun hlt => by omega, fun hlt => by omega⟩

def RState.Ext (s s' : RState) : Prop :=
  (s.version = none ∨ s.version = s'.version) ∧ (s.code = none ∨ s.code = s'.code) ∧ ∃ t, s'.fields = s.fields ++ t

theorem RState.Ext.refl (s : RState) : s.Ext s := ⟨.inr rfl, .inr rfl, [], (List.append_nil _).symm⟩

/-- `Ext` does not look at the phase -/
theorem RState.Ext.of_at {s t : RState} {p : RPhase} (h : s.Ext (t.at p)) : s.Ext t := h

theorem RState.Ext.trans {a b c : RState} (h1 : a.Ext b) (h2 : b.Ext c) : a.Ext c := by
  obtain ⟨v1, c1, t1, f1⟩ := h1
  obtain ⟨v2, c2, t2, f2⟩ := h2
  exact ⟨v1.elim .inl fun e => e ▸ v2, c1.elim .inl fun e => e ▸ c2, t1 ++ t2, by rw [f2, f1, List.append_assoc]⟩

theorem step_next_mono (s s' : RState) (b : UInt8) (hi : s.Inv) (h : respStep s b = .next s') :
    s'.Inv ∧ s.Ext s' := by
  have hshape := respStep_shape s b
  rw [h] at hshape
  cases hshape with
  | move p hp => exact ⟨⟨fun hlt => hi.1 (hp ▸ hlt), fun hlt => hi.2 (hp ▸ hlt)⟩, .refl s⟩
  | version v h0 =>
    -- the version is set on leaving rank 0, where it was not set before
    exact ⟨⟨fun hlt => absurd hlt (Nat.lt_irrefl 1), fun _ => hi.2 (by omega)⟩,
      .inl (hi.1 (by omega)), .inr rfl, [], (List.append_nil _).symm⟩
  | code c h1 => exact ⟨.of_late rfl, .inr rfl, .inl (hi.2 (by omega)), [], (List.append_nil _).symm⟩
  | field x _ => exact ⟨.of_late rfl, .inr rfl, .inr rfl, [x], rfl⟩

theorem step_fields_no_lf (s s' : RState) (b : UInt8) (hb : b ≠ 10) (h : respStep s b = .next s') :
    s'.fields = s.fields := by
  have hshape := respStep_shape s b
  rw [h] at hshape
  cases hshape with
  | move p _ => rfl
  | version v _ => rfl
  | code c _ => rfl
  | field x h10 => exact absurd h10 hb

theorem run_fields_no_lf : ∀ (inp : Bytes') (s : RState) (k : Nat) (st : RState), (∀ b ∈ inp, b ≠ 10) →
    runFrom respStep s inp k = .more st → st.fields = s.fields := by
  intro inp s k st
  fun_induction runFrom respStep s inp k with
  | case1 s k =>
    intro _ h
    cases h
    rfl
  | case2 s b bs k s' hs ih =>
    intro hb h
    exact (ih (fun x hx => hb x (List.mem_cons_of_mem b hx)) h).trans
      (step_fields_no_lf s s' b (hb b List.mem_cons_self) hs)
  | case3 s b bs k r hs =>
    intro _ h
    cases h
  | case4 s b bs k e hs =>
    intro _ h
    cases h

theorem run_more_mono {inp : Bytes'} {s : RState} {k : Nat} {st : RState} (hi : s.Inv)
    (h : runFrom respStep s inp k = .more st) : st.Inv ∧ s.Ext st := by
  fun_induction runFrom respStep s inp k with
  | case1 s k =>
    cases h
    exact ⟨hi, .refl _⟩
  | case2 s b bs k s' hs ih =>
    obtain ⟨hi', he⟩ := step_next_mono s s' b hi hs
    exact ⟨(ih hi' h).1, he.trans (ih hi' h).2⟩
  | case3 s b bs k r hs => cases h
  | case4 s b bs k e hs => cases h

theorem prefix_ext {slots : Nat} {a : Bytes'} {st' : RState} (hrun : parseResp slots a = .more st')
    (tail : Bytes') {n : Nat} (hn : n ≤ a.length) :
    ∃ st, parseResp slots ((a ++ tail).take n) = .more st ∧ st.Ext st' := by
  rw [List.take_append_of_le_length hn]
  obtain ⟨st, hst, hrest⟩ := more_split hrun n
  exact ⟨st, hst, (run_more_mono (run_more_mono (.init slots) hst).1 hrest).2⟩

theorem prefix_state_ext (h : Head) (hw : h.wf) (slots : Nat) (hs : h.fields.length ≤ slots) (n : Nat)
    (hn : n < h.enc.length) :
    ∃ st, parseResp slots (h.enc.take n) = .more st ∧ st.Ext (h.between slots h.fields) := by
  -- all of the head but its last byte leaves the scanner waiting for that LF, with every field recorded
  have hrun : parseResp slots (h.statusLine ++ (encFields h.fields ++ [13])) =
      .more ((h.between slots h.fields).at .endCR) :=
    (run_head h hw slots h.fields hw.fields hs [13]).trans rfl
  have henc : h.enc = (h.statusLine ++ (encFields h.fields ++ [13])) ++ [10] := by
    simp [Head.enc]
  rw [henc] at hn ⊢
  obtain ⟨st, hst, he⟩ := prefix_ext hrun [10] (n := n) (by
    simp only [List.length_append, List.length_cons, List.length_nil] at hn ⊢
    omega)
  exact ⟨st, hst, he.of_at⟩

/-- `prefix_state_ext` with `Ext` and `between` written out -/
theorem prefix_state (h : Head) (hw : h.wf) (slots : Nat) (hs : h.fields.length ≤ slots) (n : Nat)
    (hn : n < h.enc.length) :
    ∃ st, parseResp slots (h.enc.take n) = .more st ∧
      (st.version = none ∨ st.version = some h.ver) ∧ (st.code = none ∨ st.code = some h.codeVal) ∧
      ∃ t, h.fields.map Field.pair = st.fields ++ t :=
  prefix_state_ext h hw slots hs n hn

theorem prefix_before_line (h : Head) (hw : h.wf) (slots : Nat) (pre : List Field) (f : Field) (post : List Field)
    (hsplit : h.fields = pre ++ f :: post) (hs : pre.length ≤ slots)
    (n : Nat) (hn : n < h.statusLine.length + (encFields pre).length + f.enc.length) :
    ∃ st, parseResp slots (h.enc.take n) = .more st ∧ st.Ext (h.between slots pre) := by
  have hwf : ∀ g ∈ h.fields, g.wf := hw.fields
  have hfwf : f.wf := hwf f (hsplit ▸ List.mem_append_right pre List.mem_cons_self)
  -- up to the CR of line `f` the run goes on (the slot count is not looked at before the LF), and there
  -- exactly `pre` is recorded
  have hrun : parseResp slots (h.statusLine ++ (encFields pre ++ (f.body ++ []))) =
      .more ((h.between slots pre).at f.atCR) :=
    (run_head h hw slots pre (fun g hg => hwf g (hsplit ▸ List.mem_append_left _ hg)) hs _).trans
      (run_field_body (h.between slots pre) f hfwf [] _)
  have henc : h.enc =
      (h.statusLine ++ (encFields pre ++ (f.body ++ []))) ++ (10 :: (encFields post ++ [13, 10])) := by
    simp [Head.enc, hsplit, encFields, f.enc_eq_body]
  rw [henc]
  obtain ⟨st, hst, he⟩ := prefix_ext hrun (10 :: (encFields post ++ [13, 10])) (n := n) (by
    rw [f.enc_eq_body] at hn
    simp only [List.length_append, List.length_cons, List.length_nil] at hn ⊢
    omega)
  exact ⟨st, hst, he.of_at⟩

theorem prefix_state_bound (h : Head) (hw : h.wf) (slots : Nat) (hs : h.fields.length ≤ slots)
    (pre : List Field) (f : Field) (post : List Field) (hsplit : h.fields = pre ++ f :: post)
    (n : Nat) (hn : n < h.statusLine.length + (encFields pre).length + f.enc.length) :
    ∃ st, parseResp slots (h.enc.take n) = .more st ∧ ∃ t, pre.map Field.pair = st.fields ++ t := by
  have hpre : pre.length ≤ slots := by
    rw [hsplit, List.length_append] at hs
    omega
  obtain ⟨st, hst, _, _, ht⟩ := prefix_before_line h hw slots pre f post hsplit hpre n hn
  exact ⟨st, hst, ht⟩

/-- for every slot count, also zero -/
theorem resp_inside_first_field (h : Head) (hw : h.wf) (f : Field) (fs : List Field) (hfs : h.fields = f :: fs)
    (slots : Nat) (n : Nat) (hn : n < h.statusLine.length + f.enc.length) :
    ∃ st, parseResp slots (h.enc.take n) = .more st := by
  obtain ⟨st, hst, _⟩ := prefix_before_line h hw slots [] f fs hfs (Nat.zero_le slots) n (by simpa [encFields] using hn)
  exact ⟨st, hst⟩
