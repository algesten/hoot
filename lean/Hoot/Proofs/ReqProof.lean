import Hoot.Proofs.RespProof

/-! forward simulation of the request scanner (`reqStep`, httparse `Request::parse`) on well-formed heads -/

def QState.at (s : QState) (p : QPhase) : QState := { s with phase := p }

@[simp] theorem qat_fields (s : QState) (p) : (s.at p).fields = s.fields := rfl
@[simp] theorem qat_slots (s : QState) (p) : (s.at p).slots = s.slots := rfl
@[simp] theorem qat_version (s : QState) (p) : (s.at p).version = s.version := rfl
@[simp] theorem qat_method (s : QState) (p) : (s.at p).method = s.method := rfl
@[simp] theorem qat_path (s : QState) (p) : (s.at p).path = s.path := rfl
@[simp] theorem qat_phase (s : QState) (p) : (s.at p).phase = p := rfl
@[simp] theorem qat_at (s : QState) (p q) : (s.at p).at q = s.at q := rfl

set_option linter.unusedVariables false in
theorem qnameTok_ne_colon {b : UInt8} (h : isNameTok b = true) : True := trivial

/-- the request scanner's phases of a field line, named by the response scanner's -/
def QPhase.ofField : RPhase → QPhase
  | .name acc => .name acc
  | .ows nm => .ows nm
  | .emptyCR nm => .emptyCR nm
  | .value nm acc => .value nm acc
  | .valueCR nm acc => .valueCR nm acc
  | _ => .lineStart

theorem reqFieldSteps (s : QState) :
    FieldSteps reqStep (fun done p => { s with phase := .ofField p, fields := done }) s.slots where
  start h := by
    simp [QPhase.ofField, reqStep, h, ne_of_tok h (c := 13) (by decide), ne_of_tok h (c := 10) (by decide)]
  name h := by simp [QPhase.ofField, reqStep, h]
  colon := rfl
  ows h := by simp [QPhase.ofField, reqStep, h]
  first h hw := by simp [QPhase.ofField, reqStep, h, hw]
  emptyCR := rfl
  value h := by simp [QPhase.ofField, reqStep, h]
  valueCR := rfl
  emptyLF := rfl
  valueLF := rfl

theorem reqStep_method (s : QState) (acc : Bytes') {b : UInt8} (hb : isMethodTok b = true ∧ b ≠ 32) :
    reqStep (s.at (.method acc)) b = .next (s.at (.method (acc ++ [b]))) := by
  simp [reqStep, QState.at, hb.1, hb.2]

theorem qrun_method (s : QState) (m : Bytes') (hne : m ≠ []) (hm : ∀ b ∈ m, isMethodTok b = true ∧ b ≠ 32)
    (rest : Bytes') (k : Nat) :
    runFrom reqStep (s.at .skipEmpty) (m ++ 32 :: rest) k =
      runFrom reqStep ({ s with method := some m }.at (.uri m [])) rest (k + (m.length + 1)) := by
  cases m with
  | nil => exact absurd rfl hne
  | cons m0 ms =>
    have hm0 : isMethodTok m0 = true := (hm m0 List.mem_cons_self).1
    have hstart : reqStep (s.at .skipEmpty) m0 = .next (s.at (.method [m0])) := by
      simp [reqStep, QState.at, hm0, ne_of_tok hm0 (c := 13) (by decide), ne_of_tok hm0 (c := 10) (by decide)]
    have hsp : reqStep (s.at (.method (m0 :: ms))) 32 =
        .next ({ s with method := some (m0 :: ms) }.at (.uri (m0 :: ms) [])) := rfl
    rw [List.cons_append, runFrom_cons_next hstart,
      runFrom_loop reqStep (fun acc => s.at (.method acc)) ms
        (fun acc b hb => reqStep_method s acc (hm b (List.mem_cons_of_mem m0 hb))) [m0],
      List.singleton_append, runFrom_cons_next hsp]
    simp only [List.length_cons]
    congr 1
    omega

theorem reqStep_uri (s : QState) (m acc : Bytes') {b : UInt8} (hb : isUriTok b = true) :
    reqStep (s.at (.uri m acc)) b = .next (s.at (.uri m (acc ++ [b]))) := by
  simp [reqStep, QState.at, hb]

theorem qrun_target (s : QState) (m t : Bytes') (hne : t ≠ []) (ht : ∀ b ∈ t, isUriTok b = true)
    (rest : Bytes') (k : Nat) :
    runFrom reqStep (s.at (.uri m [])) (t ++ 32 :: rest) k =
      runFrom reqStep ({ s with path := some t }.at (.ver 0)) rest (k + (t.length + 1)) := by
  have hsp : reqStep (s.at (.uri m t)) 32 = .next ({ s with path := some t }.at (.ver 0)) := by
    simp [reqStep, QState.at, show isUriTok 32 = false by decide, hne]
  rw [runFrom_loop reqStep (fun acc => s.at (.uri m acc)) t (fun acc b hb => reqStep_uri s m acc (ht b hb)) [],
    List.nil_append, runFrom_cons_next hsp, Nat.add_assoc]

/-- `HTTP/1.`, the minor version digit and the CRLF that ends the request line -/
theorem qrun_version (s : QState) (ver : Nat) (hver : ver ≤ 1) (rest : Bytes') (k : Nat) :
    runFrom reqStep (s.at (.ver 0)) (72 :: 84 :: 84 :: 80 :: 47 :: 49 :: 46 :: (48 + ver).toUInt8 :: 13 :: 10 :: rest) k =
      runFrom reqStep ({ s with version := some ver }.at .lineStart) rest (k + 10) := by
  obtain rfl | rfl : ver = 0 ∨ ver = 1 := by omega
  · rfl
  · rfl

def RHead.between (h : RHead) (slots : Nat) (done : List Field) : QState :=
  { phase := .lineStart, method := some h.method, path := some h.target, version := some h.ver,
    fields := done.map Field.pair, slots := slots }

theorem qrun_line (h : RHead) (hw : h.wf) (slots : Nat) (rest : Bytes') :
    runFrom reqStep (reqInit slots) (h.line ++ rest) 0 =
      runFrom reqStep (h.between slots []) rest h.line.length := by
  obtain ⟨hmne, hm, htne, ht, hver, _⟩ := hw
  simp only [RHead.line, List.cons_append, List.nil_append, List.append_assoc]
  rw [show reqInit slots = (reqInit slots).at .skipEmpty from rfl, qrun_method _ h.method hmne hm,
    qrun_target _ h.method h.target htne ht, qrun_version _ h.ver hver]
  congr 1
  simp only [List.length_cons, List.length_append, List.length_nil]
  omega

theorem qrun_end (s : QState) (m p : Bytes') (v : Nat) (hm : s.method = some m) (hp : s.path = some p) (hv : s.version = some v)
    (rest : Bytes') (k : Nat) :
    runFrom reqStep (s.at .lineStart) (13 :: 10 :: rest) k =
      .complete { method := m, path := p, version := v, fields := s.fields } (k + 2) := by
  have h1 : reqStep (s.at .lineStart) 13 = .next (s.at .endCR) := rfl
  rw [runFrom_cons_next h1]
  simp [runFrom, reqStep, QState.at, qFinish, hm, hp, hv]

theorem qrun_head (h : RHead) (hw : h.wf) (slots : Nat) (fs : List Field) (hfs : ∀ f ∈ fs, f.wf)
    (hs : fs.length ≤ slots) (rest : Bytes') :
    runFrom reqStep (reqInit slots) (h.line ++ (encFields fs ++ rest)) 0 =
      runFrom reqStep (h.between slots fs) rest (h.line.length + (encFields fs).length) := by
  rw [qrun_line h hw slots]
  exact (reqFieldSteps (h.between slots [])).run_lines fs hfs [] (by simpa [RHead.between] using hs) rest _

theorem req_forward (h : RHead) (hw : h.wf) (slots : Nat) (hs : h.fields.length ≤ slots) (rest : Bytes') :
    parseReq slots (h.enc ++ rest) =
      .complete { method := h.method, path := h.target, version := h.ver, fields := h.fields.map Field.pair } h.enc.length := by
  unfold parseReq RHead.enc
  rw [List.append_assoc, List.append_assoc, qrun_head h hw slots h.fields hw.fields hs]
  refine (qrun_end (h.between slots h.fields) h.method h.target h.ver rfl rfl rfl rest _).trans ?_
  simp only [List.length_append, List.length_cons, List.length_nil, Nat.add_assoc]
  rfl

theorem req_prefix (h : RHead) (hw : h.wf) (slots : Nat) (hs : h.fields.length ≤ slots) (n : Nat)
    (hn : n < h.enc.length) : ∃ st, parseReq slots (h.enc.take n) = .more st := by
  have hf := complete_prefix (req_forward h hw slots hs []) hn
  rwa [List.append_nil] at hf

theorem req_too_many (h : RHead) (hw : h.wf) (slots : Nat) (hs : slots < h.fields.length) (rest : Bytes') :
    parseReq slots (h.enc ++ rest) = .error .tooManyHeaders := by
  unfold parseReq RHead.enc
  rw [List.append_assoc, qrun_line h hw slots, List.append_assoc]
  exact (reqFieldSteps (h.between slots [])).run_too_many h.fields hw.fields [] (Nat.zero_le slots)
    (by simpa [RHead.between] using hs) _ _
