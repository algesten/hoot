import Hoot.Model.Flow
import Hoot.Proofs.RespMono

/-! The partial response parser and the partial-redirect fallback of `try_response` on input that leaves the
    scanner waiting for more in a state that agrees with a head as far as it is set: every strict prefix of a
    well-formed head is such input (`prefix_state_ext`, `prefix_before_line`). -/

/-- 65535 is the `http` crate's limit on a header name (`MAX_HEADER_NAME_LEN`; a longer one was the panic D9, now
    `BadHeader`): no part of the pairs of fields with short names trips it. -/
theorem no_long_name {fs : List Field} (hn : ∀ f ∈ fs, f.name.length ≤ 65535) {l : List (Bytes' × Bytes')}
    (hl : l ⊆ fs.map Field.pair) : l.any (fun f => decide (f.1.length > 65535)) = false := by
  simp only [List.any_eq_false, decide_eq_true_eq, Nat.not_lt]
  intro x hx
  obtain ⟨f, hf, rfl⟩ := List.mem_map.mp (hl hx)
  exact hn f hf

theorem keepNonEmpty_subset (l : List (Bytes' × Bytes')) : keepNonEmpty l ⊆ l := List.takeWhile_subset _

/-- with version and status at hand; the model spells `keepNonEmpty l` out -/
theorem partialFinish_eq (ver code : Nat) (l : List (Bytes' × Bytes')) :
    partialFinish (some ver) (some code) l =
      if code < 100 then .error (.api .responseInvalidStatus)
      else if (keepNonEmpty l).any (fun f => f.1.length > 65535) then .error (.api .badHeader)
      else .ok (some { version := ver, status := code, fields := fieldsOf (keepNonEmpty l) }) := rfl

/-- `h100`: `http::StatusCode::from_u16` refuses a status below 100 (`ResponseInvalidStatus`). -/
theorem partialFinish_some {ver code : Nat} (h100 : 100 ≤ code) {fs : List Field}
    (hn : ∀ f ∈ fs, f.name.length ≤ 65535) {l : List (Bytes' × Bytes')} (hl : l ⊆ fs.map Field.pair) :
    partialFinish (some ver) (some code) l =
      .ok (some { version := ver, status := code, fields := fieldsOf (keepNonEmpty l) }) := by
  rw [partialFinish_eq, if_neg (Nat.not_lt.mpr h100),
    if_neg (ne_true_of_eq_false (no_long_name hn ((keepNonEmpty_subset l).trans hl)))]

theorem tryParseResponse_more {N : Nat} {w : Bytes} {st : RState} (hst : parseResp N w = .more st) :
    tryParseResponse N w = .ok none := by
  unfold tryParseResponse
  rw [hst]

/-- the partial parser where the scanner waits for more, in a state on the way to the one that has read the fields
    `fs` of `h`: nothing while version or code is missing, then the fields read so far, cut at the first empty one -/
theorem tryParsePartial_more {N : Nat} {w : Bytes} {st : RState} (hst : parseResp N w = .more st) {h : Head}
    {fs : List Field} (he : st.Ext (h.between N fs)) (hc : 100 ≤ h.codeVal)
    (hnames : ∀ f ∈ fs, f.name.length ≤ 65535) :
    tryParsePartial N w = .ok none ∨
    ∃ (k0 t : List (Bytes' × Bytes')), fs.map Field.pair = k0 ++ t ∧
      tryParsePartial N w =
        .ok (some { version := h.ver, status := h.codeVal, fields := fieldsOf (keepNonEmpty k0) }) := by
  have hrun : tryParsePartial N w = partialFinish st.version st.code st.fields := by
    unfold tryParsePartial
    rw [hst]
  obtain ⟨hv, hcd, t, (hf : fs.map Field.pair = st.fields ++ t)⟩ := he
  rw [hrun]
  rcases hv with hv | hv
  · left
    rw [hv]
    rfl
  · rcases hcd with hcd | hcd
    · left
      rw [hv, hcd]
      rfl
    · right
      rw [hv, hcd]
      exact ⟨st.fields, t, hf, partialFinish_some hc hnames fun x hx => hf ▸ List.mem_append_left t hx⟩

theorem callTryResponse_more (c : CallSt) {w : Bytes} {st : RState} (hst : parseResp 128 w = .more st) {h : Head}
    {fs : List Field} (he : st.Ext (h.between 128 fs)) (hc : 100 ≤ h.codeVal)
    (hnames : ∀ f ∈ fs, f.name.length ≤ 65535)
    (hnot : ¬ (300 ≤ h.codeVal ∧ h.codeVal ≤ 399) ∨
      (fieldsOf (fs.map Field.pair)).any (fun x => x.name == "location") = false) :
    callTryResponse true c w = (c, .ok none) := by
  have hnone : parseWithFallback true w = .ok none := by
    unfold parseWithFallback
    rw [tryParseResponse_more hst]
    simp only [Bool.not_true, Bool.false_eq_true, if_false]
    rcases tryParsePartial_more hst he hc hnames with hp | ⟨k0, t', hk, hp⟩
    · rw [hp]
    · -- what the partial parser reports is among `fs`: no `Location` there, none here
      have hsub : fieldsOf (keepNonEmpty k0) ⊆ fieldsOf (fs.map Field.pair) :=
        hk ▸ List.map_subset _ ((keepNonEmpty_subset k0).trans (List.subset_append_left k0 t'))
      rw [hp]
      refine if_neg ?_
      rintro ⟨h1, h2, h3⟩
      rcases hnot with h3xx | hloc
      · exact h3xx ⟨h1, h2⟩
      · obtain ⟨y, hy, hq⟩ := List.any_eq_true.mp h3
        exact List.any_eq_false.mp hloc y (hsub hy) hq
  unfold callTryResponse
  rw [hnone]
