import Hoot.Spec.FlowOps
import Hoot.Proofs.FlowParts

theorem Flow.new_wf (m : Method) (v : Version) (u : Uri) (orig : List Hdr) : (Flow.new m v u orig).WF := by
  unfold Flow.new
  constructor <;> simp [holderOk, sendOk, MAX_EXTRA, BodyWriter.newChunked, BodyWriter.newNone]
  · split <;> split <;> simp
  · cases m <;> simp [Method.needBody]

theorem wf_of_eq_fields {f g : Flow} (h : f.WF)
    (h1 : g.st = f.st) (h2 : g.holder = f.holder) (h3 : g.call = f.call) (h4 : g.closeReasons = f.closeReasons)
    (h5 : g.shouldSendBody = f.shouldSendBody) (h6 : g.status = f.status) (h7 : g.await100 = f.await100) : g.WF := by
  cases f
  cases g
  simp only at h1 h2 h3 h4 h5 h6 h7
  subst h1 h2 h3 h4 h5 h6 h7
  exact { h with }

/-! Each lemma names exactly the fields of `Flow.WF` that read the updated component; `{ h with … }` carries the
    others over. -/
namespace Flow.WF

theorem setReasons {f : Flow} (h : f.WF) {l : List CloseReason} (hl : l.Nodup) :
    ({ f with closeReasons := l } : Flow).WF :=
  { h with nodup := hl }

theorem clearAwait {f : Flow} (h : f.WF) : ({ f with await100 := false } : Flow).WF :=
  { h with aw := fun _ => nofun }

/-- the receiving side of a call only ever touches the reader and the stop flag -/
theorem setReader {f : Flow} (h : f.WF) {r : Option BodyReader} {s : Option Nat} (b : Bool)
    (hr : f.call.reader.isSome = true → r.isSome = true) (hs : r.isSome = true → s.isSome = true)
    (ht : r ≠ some (.chunked .trailer)) :
    ({ f with call := { f.call with reader := r, stopBoundary := b }, status := s } : Flow).WF :=
  { h with rdr := fun hst => hr (h.rdr hst), stat := hs, trl := ht }

theorem setWriter {f : Flow} (h : f.WF) (hh : f.holder = .withBody) {bw : BodyWriter} (hm : bw.mode ≠ .none) :
    ({ f with call := { f.call with writer := bw } } : Flow).WF :=
  { h with
    nobody := fun e => nomatch hh.symm.trans e
    body := fun _ => hm }

theorem toSendRequest {f : Flow} (h : f.WF) (hs : f.st = .prepare) : ({ f with st := .sendRequest } : Flow).WF :=
  { h with
    holder := by simpa [holderOk, hs] using h.holder
    send := fun _ => h.send (.inl hs)
    prep := nofun
    sbody := nofun
    await := nofun
    aw := nofun
    rdr := by simp
    post := by simp }

theorem toBodyState {f : Flow} (h : f.WF) {s : FState} (hs : s = .await100 ∨ s = .sendBody)
    (hh : f.holder = .withBody) (hp : f.call.phase = .sendBody) (hb : s = .await100 → f.shouldSendBody = true) :
    ({ f with st := s } : Flow).WF := by
  have ha : f.call.analyzed = true := h.ph (by simp [hp])
  rcases hs with rfl | rfl
  all_goals exact
    { h with
      holder := hh
      send := by simp [sendOk]
      prep := nofun
      sbody := fun _ => ⟨hp, ha⟩
      await := fun _ => ⟨ha, hp⟩
      aw := fun e _ => hb e
      rdr := by simp
      post := by simp }

theorem toRecvResponse {f : Flow} (h : f.WF) (ha : f.call.analyzed = true) : (enterRecvResponse f).1.WF :=
  { h with
    holder := rfl
    send := by simp [sendOk, enterRecvResponse]
    prep := nofun
    ph := fun _ => ha
    nobody := nofun
    body := nofun
    sbody := nofun
    await := nofun
    aw := nofun
    rdr := by simp [enterRecvResponse]
    post := fun _ => ha }

/-- the three states after the response head ask the same of a flow -/
def tail (s : FState) : Prop := s = .recvBody ∨ s = .redirect ∨ s = .cleanup

theorem toTail {f : Flow} (h : f.WF) (ha : f.call.analyzed = true) (hr : f.call.reader.isSome = true)
    {s : FState} (hs : tail s) :
    ({ f with st := s, holder := .recvBody, call := { f.call with phase := .recvBody } } : Flow).WF := by
  rcases hs with rfl | rfl | rfl
  all_goals exact
    { h with
      holder := rfl
      send := by simp [sendOk]
      prep := nofun
      ph := fun _ => ha
      nobody := nofun
      body := nofun
      sbody := nofun
      await := nofun
      aw := nofun
      rdr := fun _ => hr
      post := fun _ => ha }

theorem tailStep {f : Flow} (h : f.WF) (hf : tail f.st) {s : FState} (hs : tail s) : ({ f with st := s } : Flow).WF := by
  have hh : f.holder = .recvBody := by
    rcases hf with e | e | e <;> simpa [holderOk, e] using h.holder
  rcases hs with rfl | rfl | rfl
  all_goals exact
    { h with
      holder := hh
      send := by simp [sendOk]
      prep := nofun
      sbody := nofun
      await := nofun
      aw := nofun
      rdr := fun _ => h.rdr hf
      post := fun _ => h.post (.inr hf) }

end Flow.WF

theorem callInv_of_wf (f : Flow) (h : f.WF) : CallInv f.call := ⟨h.cap, h.hdrs, h.ph⟩

theorem Flow.WF.setCall {f : Flow} (h : f.WF) {c : CallSt} (hk : CallKeeps f.call c) (hs : f.st = .sendRequest) :
    ({ f with call := c } : Flow).WF :=
  { h with
    cap := hk.inv.cap
    hdrs := hk.inv.hdrs
    ph := hk.inv.ph
    prep := fun e => nomatch hs.symm.trans e
    nobody := fun hh => ⟨hk.skip.trans (h.nobody hh).1, (congrArg Method.needBody hk.meth).trans (h.nobody hh).2.1,
      hk.none (h.nobody hh).1 (h.nobody hh).2.1 (h.nobody hh).2.2⟩
    body := fun hh => hk.mode (h.body hh)
    sbody := fun e => nomatch hs.symm.trans e
    await := fun e => nomatch hs.symm.trans e
    rdr := fun e => by simp [hs] at e
    stat := fun e => h.stat (hk.reader ▸ e)
    trl := hk.reader ▸ h.trl
    post := fun e => by simp [hs] at e }

theorem canProceed_ok (f : Flow) (hwf : f.WF) : ∃ b, f.canProceed = .ok b := by
  have hh := hwf.holder
  have hrd := hwf.rdr
  unfold Flow.canProceed
  cases hst : f.st <;> simp only [holderOk, hst] at hh hrd ⊢
  · exact ⟨_, rfl⟩
  · rcases hh with h | h <;> rw [h] <;> exact ⟨_, rfl⟩
  · exact ⟨_, rfl⟩
  · rw [hh]; exact ⟨_, rfl⟩
  · rw [hh]; exact ⟨_, rfl⟩
  · rw [hh]
    cases hr : f.call.reader with
    | none => simp [hr] at hrd
    | some rd => exact ⟨_, rfl⟩
  · exact ⟨_, rfl⟩
  · exact ⟨_, rfl⟩

theorem Flow.WF.proceed {f : Flow} (hwf : f.WF) (hack : Bool) :
    (f.canProceed = .ok false ∧ f.step hack .proceed = (f, .none)) ∨
    (f.canProceed = .ok true ∧ ∃ g, f.step hack .proceed = (g, .state (graphSpec f)) ∧ g.st = graphSpec f ∧ g.WF) ∨
    (f.st = .cleanup ∧ f.step hack .proceed = notOffered f) := by
  have hhold := hwf.holder
  obtain ⟨b, hc⟩ := canProceed_ok f hwf
  cases b with
  | false => exact .inl ⟨hc, proceed_not_ready hack hc⟩
  | true =>
    unfold holderOk at hhold
    unfold graphSpec
    cases hst : f.st with
    | prepare =>
      rw [flow_step_prepare hst]
      exact .inr (.inl ⟨hc, _, rfl, rfl, hwf.toSendRequest hst⟩)
    | sendRequest =>
      rw [hst] at hhold
      have hsend := hwf.send (.inr hst)
      rw [flow_step_sendRequest hst, stepSendRequest_proceed hc]
      refine .inr (.inl ⟨hc, ?_⟩)
      split
      · rename_i hsb
        have hwb : f.holder = .withBody := hsend.mp hsb
        have hph : f.call.phase = .sendBody := by simpa [Flow.canProceed, hst, hwb] using hc
        split
        · exact ⟨_, rfl, rfl, hwf.toBodyState (.inl rfl) hwb hph fun _ => hsb⟩
        · rw [enterSendBody_of_analyzed (hwf.ph (by simp [hph]))]
          exact ⟨_, rfl, rfl, hwf.toBodyState (.inr rfl) hwb hph nofun⟩
      · rename_i hsb
        have hnb : f.holder = .withoutBody := hhold.resolve_right fun h => hsb (hsend.mpr h)
        have hph : f.call.phase ≠ .sendLine := by
          intro e
          simp [Flow.canProceed, hst, hnb, e, Phase.isPrelude] at hc
        simp only [hnb, (hwf.nobody hnb).2.2, BodyWriter.newNone, if_true]
        exact ⟨_, rfl, rfl, hwf.toRecvResponse (hwf.ph hph)⟩
    | await100 =>
      rw [hst] at hhold
      obtain ⟨han, hph⟩ := hwf.await hst
      rw [flow_step_await100 hst, stepAwait100_proceed]
      refine .inr (.inl ⟨hc, ?_⟩)
      split
      · rw [enterSendBody_of_analyzed han]
        exact ⟨_, rfl, rfl, hwf.toBodyState (.inr rfl) hhold hph nofun⟩
      · simp only [hhold]
        exact ⟨_, rfl, rfl, hwf.toRecvResponse han⟩
    | sendBody =>
      rw [hst] at hhold
      rw [flow_step_sendBody hst, stepSendBody_proceed hhold hc]
      exact .inr (.inl ⟨hc, _, rfl, rfl, hwf.toRecvResponse (hwf.sbody hst).2⟩)
    | recvResponse =>
      rw [hst] at hhold
      rw [flow_step_recvResponse hst]
      have hrd : f.call.reader.isSome = true := by simpa [Flow.canProceed, hst, hhold] using hc
      obtain ⟨rd, hr⟩ := Option.isSome_iff_exists.mp hrd
      have hw := hwf.toTail (hwf.post (.inl hst)) hrd
        (s := if needResponseBody f.call.reader then .recvBody else if isRedirectStatus f.status then .redirect else .cleanup)
        (by (repeat' split) <;> simp [Flow.WF.tail])
      rw [stepRecvResponse_proceed hack hst hhold hr hwf.nodup]
      simp only [graphSpec, hst]
      exact .inr (.inl ⟨hc, _, rfl, rfl, hw.setReasons (pushReason_if _ _ _ hwf.nodup).1⟩)
    | recvBody =>
      rw [flow_step_recvBody hst, stepRecvBody_proceed hc]
      have hw := hwf.tailStep (.inl hst) (s := if isRedirectStatus f.status then .redirect else .cleanup)
        (by split <;> simp [Flow.WF.tail])
      exact .inr (.inl ⟨hc, _, rfl, rfl, hw⟩)
    | redirect =>
      rw [flow_step_redirect hst]
      exact .inr (.inl ⟨hc, _, rfl, rfl, hwf.tailStep (.inr (.inl hst)) (.inr (.inr rfl))⟩)
    | cleanup => exact .inr (.inr ⟨rfl, flow_step_cleanup hst⟩)
