import Hoot.Spec.FlowOps
import Hoot.Proofs.ChunkLoop

/-! C12 (body, chunked): for ARBITRARY bytes the decoder never panics, never runs out of fuel, keeps
    `consumed ≤ offered`, `produced ≤ space`, every produced byte is a copy of a consumed byte in order,
    and it never rests in the transient trailer state. -/

def GoodRead (src : Bytes) (cap : Nat) (res : Dechunker × Except Err (Nat × Bytes)) : Prop :=
  res.1 ≠ .trailer ∧
  match res.2 with
  | .error e => e ≠ .panic
  | .ok (n, out) => n ≤ src.length ∧ out.length ≤ cap ∧ out.Sublist (src.take n)

theorem GoodRead.append {src : Bytes} {cap n : Nat} {out : Bytes} (hn : n ≤ src.length) (ho : out.length ≤ cap)
    (hs : out.Sublist (src.take n)) {res : Dechunker × Except Err (Nat × Bytes)}
    (h : GoodRead (src.drop n) (cap - out.length) res) : GoodRead src cap (glue n out res) := by
  obtain ⟨st, _ | ⟨n', out'⟩⟩ := res
  · exact h
  · obtain ⟨h1, h2, h3, h4⟩ := h
    rw [List.length_drop] at h2
    refine ⟨h1, by omega, by simp; omega, ?_⟩
    rw [List.take_add]
    exact List.Sublist.append hs h4

theorem parseInputS_total (fuel : Nat) (st : Dechunker) (src : Bytes) (cap : Nat)
    (hq : TrOk st src) (hf : fuelNeedS st src.length ≤ fuel) : GoodRead src cap (parseInputS fuel st src cap) := by
  refine parseInputS_rule (P := fun st src cap res => TrOk st src → GoodRead src cap res) ?_ ?_ ?_
    fuel st src cap hf hq
  · intro st src cap e he hq
    exact stepOnce2_err he hq
  · intro st src cap st' n out he hq
    have s := stepOnce2_ok he
    exact ⟨s.tr_stop hq rfl, s.le, s.room, s.sub⟩
  · intro st src cap st' n out res he ih hq
    have s := stepOnce2_ok he
    exact GoodRead.append s.le s.room s.sub (ih (s.tr_more hq rfl))

theorem readChunkedS_total (fuel : Nat) : ∀ (st : Dechunker) (src : Bytes) (cap : Nat) (stop : Bool),
    st ≠ .trailer → src.length + 1 ≤ fuel → GoodRead src cap (readChunkedS fuel st src cap stop) := by
  intro st src cap stop hst hf
  have hin : ∀ st src cap, st ≠ .trailer → GoodRead src cap (parseInputS (2 * src.length + 4) st src cap) :=
    fun st src cap h => parseInputS_total _ st src cap (fun e => absurd e h) (fuelNeedS_le _ _)
  refine readChunkedS_rule (P := fun st src cap res => st ≠ .trailer → GoodRead src cap res) stop ?_ ?_ ?_
    fuel st src cap hf hst
  · intro st src cap st' e hp hst
    exact hp ▸ hin st src cap hst
  · intro st src cap st' i o hp hst
    exact hp ▸ hin st src cap hst
  · intro st src cap st' i o res hp _ _ ih hst
    obtain ⟨h1, h2, h3, h4⟩ : GoodRead src cap (st', .ok (i, o)) := hp ▸ hin st src cap hst
    exact GoodRead.append h2 h3 h4 (ih h1)

/-- no theorem takes `ChunkTotal` as a hypothesis (the flow invariant's proof uses `readChunkedS_total` itself) -/
theorem chunkTotal : ChunkTotal := by
  intro d src cap stop hd
  obtain ⟨h1, h2⟩ := readChunkedS_total (src.length + 2) d src cap stop hd (by omega)
  refine ⟨h1, fun he => ?_⟩
  rw [he] at h2
  exact h2 rfl
