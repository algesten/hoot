import Hoot.Proofs.FlowWF

/-! `Unsent`: before its body state (prepare, head being written, awaiting 100) nothing the caller can do ends the
    body writer — in particular not a further `write` after the head is complete (repair D12) — so the body state is
    entered with the body still to be written. -/

theorem bodyModeOf_ended (hc : Bool) (cl : Option Nat) (w : BodyWriter) (h : w.ended = false) :
    (bodyModeOf hc cl w).ended = false := by
  unfold bodyModeOf
  split
  · rfl
  · split
    · rfl
    · exact h

theorem analyzeRequest_ended (c : CallSt) (h : c.writer.ended = false) : c.analyzeRequest.1.writer.ended = false := by
  obtain ⟨_, w, _, e, _, hw | ⟨cl, hw⟩⟩ := analyzeRequest_frame c
  · rw [e, hw]
    exact h
  · rw [e, hw]
    exact bodyModeOf_ended _ _ _ h

theorem Flow.new_unsent (m : Method) (v : Version) (u : Uri) (orig : List Hdr) : Unsent (Flow.new m v u orig) := by
  unfold Unsent Flow.new
  intro hh _
  simp only at hh ⊢
  split at hh <;> simp_all [BodyWriter.newChunked]

theorem unsent_of_left {g : Flow} (h : ¬ g.preBody) : Unsent g := fun _ hp => absurd hp h

theorem unsent_stepPrepare (f : Flow) (op : Op) (h : Unsent f) (hop : op ≠ .proceed) : Unsent (stepPrepare f op).1 := by
  unfold stepPrepare
  cases op <;> simp only [notOffered] <;> try exact h
  case header hd =>
    split
    · exact h
    · unfold AReq.setHeader; split <;> exact h
  case despite =>
    split
    · split
      · exact h
      · intro _ _; rfl
    · exact h
  case proceed => exact absurd rfl hop

theorem writeBody_prelude_ended (c : CallSt) (input : Bytes) (cap : Nat) (hp : c.phase.isPrelude = true)
    (h : c.writer.ended = false) : (c.writeBody input cap).1.writer.ended = false := by
  have ha := analyzeRequest_ended c h
  have hph := analyzeRequest_phase c
  unfold CallSt.writeBody
  rcases hq : c.analyzeRequest with ⟨c1, r1⟩
  rw [hq] at ha hph
  cases r1 with
  | error e => exact ha
  | ok u =>
    cases u
    obtain ⟨⟨ph, e, _⟩, _⟩ := writePrelude_frame c1 { out := [], cap := cap }
    dsimp only
    rw [hph, if_pos hp]
    rcases hw : writePrelude c1 { out := [], cap := cap } with ⟨c2, w2, r2⟩
    rw [hw] at e
    cases e
    cases r2 <;> exact ha

theorem unsent_stepSendRequest (f : Flow) (op : Op) (h : Unsent f) (hs : f.st = .sendRequest) (hop : op ≠ .proceed) :
    Unsent (stepSendRequest f op).1 := by
  unfold stepSendRequest
  cases op <;> simp only [notOffered] <;> try exact h
  case write cap =>
    cases hh : f.holder <;> simp only
    case withoutBody =>
      rcases f.call.writeNoBody cap with ⟨c, r⟩
      cases r <;> exact fun h2 => nomatch h2
    case withBody =>
      split
      · exact h
      · rename_i hp
        have hp' : f.call.phase.isPrelude = true := by simpa using hp
        have he := writeBody_prelude_ended f.call [] cap hp' (h hh (Or.inr (Or.inl hs)))
        rcases hq : f.call.writeBody [] cap with ⟨c, r⟩
        rw [hq] at he
        cases r <;> exact fun _ _ => he
    all_goals exact h
  case proceed => exact absurd rfl hop

theorem unsent_stepAwait100 (f : Flow) (op : Op) (h : Unsent f) (hop : op ≠ .proceed) :
    Unsent (stepAwait100 f op).1 := by
  have h' : Unsent { f with await100 := false } := h
  cases op
  case read100 w =>
    by_cases hr : refuses w
    · rw [await_refused f w hr]
      unfold refuse100
      rcases pushReason f.closeReasons .not100 with ⟨l, _ | _⟩ <;> exact h'
    · rw [await_not_refused f w hr]
      cases tryParseResponse 0 w with
      | ok o =>
        cases o with
        | none => exact h
        | some p => exact h'
      | error e => exact h'
  case proceed => exact absurd rfl hop
  all_goals exact h

/-- advancing keeps the flow, or moves it to `Await100` with nothing else changed, or leaves the states before the body -/
theorem unsent_proceed (hack : Bool) (f : Flow) (h : Unsent f) (hpre : f.preBody) : Unsent (f.step hack .proceed).1 := by
  rcases proceed_gate hack f with hc | ⟨r, e, _⟩
  case inr =>
    rw [e]
    exact h
  rcases hpre with hs | hs | hs
  · rw [flow_step_prepare hs]
    exact fun a _ => h a (.inl hs)
  · rw [flow_step_sendRequest hs, stepSendRequest_proceed hc]
    split
    · split
      · exact fun a _ => h a (.inr (.inl hs))
      · exact unsent_of_left (by simp [Flow.preBody, enterSendBody_flow])
    · split
      · split
        · exact unsent_of_left (by simp [Flow.preBody, enterRecvResponse])
        · exact h
      · exact h
  · rw [flow_step_await100 hs, stepAwait100_proceed]
    split
    · exact unsent_of_left (by simp [Flow.preBody, enterSendBody_flow])
    · split
      · exact unsent_of_left (by simp [Flow.preBody, enterRecvResponse])
      · exact h

set_option linter.unusedVariables false in
/-- `hwf` is not used: `Unsent` is kept without the invariant -/
theorem unsent_step (hack : Bool) (f : Flow) (op : Op) (hwf : f.WF) (h : Unsent f) (hpre : f.preBody) :
    Unsent (f.step hack op).1 := by
  by_cases hop : op = .proceed
  · rw [hop]
    exact unsent_proceed hack f h hpre
  · unfold Flow.step
    rcases hpre with hs | hs | hs <;> rw [hs] <;> simp only
    · exact unsent_stepPrepare f op h hop
    · exact unsent_stepSendRequest f op h hs hop
    · exact unsent_stepAwait100 f op h hop

theorem graphSpec_eq_sendBody {f : Flow} : graphSpec f = .sendBody ↔
    (f.st = .sendRequest ∧ f.shouldSendBody = true ∧ f.await100 = false) ∨
    (f.st = .await100 ∧ f.shouldSendBody = true) := by
  unfold graphSpec
  cases f.st <;> simp
  all_goals (repeat' split) <;> simp_all

theorem proceed_sendBody (hack : Bool) (f : Flow) (he : (f.step hack .proceed).2 = .state .sendBody) :
    (f.st = .sendRequest ∨ f.st = .await100) ∧ f.shouldSendBody = true ∧ f.step hack .proceed = enterSendBody f := by
  rcases graphSpec_eq_sendBody.mp ((proceed_cases hack f).2 _ he).symm with ⟨hs, hsb, haw⟩ | ⟨hs, hsb⟩
  · have hc : f.canProceed = .ok true :=
      (proceed_gate hack f).resolve_right fun ⟨r, e, hr⟩ => hr _ ((congrArg Prod.snd e).symm.trans he)
    refine ⟨.inl hs, hsb, ?_⟩
    rw [flow_step_sendRequest hs, stepSendRequest_proceed hc, if_pos hsb, if_neg (ne_true_of_eq_false haw)]
  · refine ⟨.inr hs, hsb, ?_⟩
    rw [flow_step_await100 hs, stepAwait100_proceed, if_pos hsb]

theorem enter_sendBody_fresh (hack : Bool) (f : Flow) (h : Unsent f) (hpre : f.preBody) (hb : f.holder = .withBody)
    (he : (f.step hack .proceed).2 = .state .sendBody) :
    (f.step hack .proceed).1.st = .sendBody ∧ (f.step hack .proceed).1.holder = .withBody ∧
    (f.step hack .proceed).1.call.writer.ended = false ∧
    (f.step hack .proceed).1.canProceed = .ok false := by
  have ha := analyzeRequest_ended f.call (h hb hpre)
  rw [(proceed_sendBody hack f he).2.2, enterSendBody_flow]
  refine ⟨rfl, hb, ha, ?_⟩
  rw [canProceed_sendBody { f with call := f.call.analyzeRequest.1, st := .sendBody } rfl hb]
  exact congrArg Except.ok ha

theorem step_not_preBody (hack : Bool) (f : Flow) (op : Op) (h : ¬ f.preBody) : ¬ (f.step hack op).1.preBody := by
  unfold Flow.preBody at h ⊢
  -- the graph never leads back: from a state after the head it prescribes a state after the head
  have hg : ¬ (graphSpec f = .prepare ∨ graphSpec f = .sendRequest ∨ graphSpec f = .await100) := by
    unfold graphSpec
    cases hs : f.st <;> simp [hs] at h ⊢
    all_goals (repeat' split) <;> simp
  by_cases hop : op = .proceed
  · subst hop
    rcases (proceed_cases hack f).1 with e | e
    · rw [e]
      exact h
    · rw [e]
      exact hg
  · rw [step_st_of_ne_proceed hack f op hop]
    exact h
