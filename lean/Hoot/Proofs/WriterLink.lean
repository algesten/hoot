import Hoot.Model.Flow
import Hoot.Proofs.Writer

/-! link between the byte-level chunked writer of the model (`writeChunks`, Req.lean) and the length-level
    arithmetic of Writer.lean -/

theorem toHexB_length (n : Nat) : (toHexB n).length = hexLen n := by
  induction n using Nat.strongRecOn with
  | _ n ih =>
    rw [toHexB, hexLen]
    by_cases h : n < 16
    · simp [h]
    · simp only [h, dite_false, List.length_append, List.length_cons, List.length_nil]
      rw [ih (n / 16) (by omega)]
      omega

theorem fitDownB_eq (a : Nat) : ∀ s, fitDownB a s = fitDown a s := by
  intro s
  induction s with
  | zero => rfl
  | succ s ih =>
    simp only [fitDownB, fitDown, frameLen, hexLenB, toHexB_length, ih]
    rfl

theorem frame_length (c : Bytes) : (frame c).length = frameLen c.length := by
  simp [frame, crlf, frameLen, toHexB_length]
  omega

theorem tryWrite_fits (w : W) (b : Bytes) (h : b.length ≤ w.available) :
    w.tryWrite b = ({ w with out := w.out ++ b }, true) := by
  rw [W.tryWrite, if_pos h]

theorem available_after (w : W) (b : Bytes) :
    ({ w with out := w.out ++ b } : W).available = w.available - b.length := by
  simp [W.available]
  omega

/-- one turn of the `write_chunk` loop, in step with the recursion of `consumedLen`: the chunk it picks is `chunkOf`, and its
    frame always fits -/
theorem writeChunks_step (input : Bytes) (w : W) (used : Nat) :
    writeChunks input w 10240 used =
      if chunkOf input.length w.available = 0 then (w, used)
      else if input.length > chunkOf input.length w.available then
        writeChunks (input.drop (chunkOf input.length w.available))
          { w with out := w.out ++ frame (input.take (chunkOf input.length w.available)) } 10240
          (used + chunkOf input.length w.available)
      else ({ w with out := w.out ++ frame (input.take (chunkOf input.length w.available)) },
            used + chunkOf input.length w.available) := by
  have hco : min input.length (min 10240 (fitDownB w.available (w.available - 5))) = chunkOf input.length w.available := by
    rw [fitDownB_eq]
    rfl
  rw [writeChunks]
  simp only [hco]
  have hci := chunkOf_le input.length w.available
  have hfits := @chunkOf_fits input.length w.available
  generalize chunkOf input.length w.available = k at *
  split
  · rfl
  · rename_i h0
    have htl : (input.take k).length = k := List.length_take_of_le hci
    have hfr : toHexB k ++ crlf ++ input.take k ++ crlf = frame (input.take k) := by rw [frame, htl]
    rw [hfr, tryWrite_fits w _ (by rw [frame_length, htl]; exact hfits h0)]
    rfl

/-- What a chunked write of non-empty input does, for every input and every buffer: the output grows
    by a sequence of complete non-empty chunks whose data is exactly the consumed prefix of the input,
    and the consumed count is the length-level `consumedLen`. -/
theorem writeChunks_spec : ∀ (n : Nat) (input : Bytes) (w : W) (used : Nat), input.length = n → w.out.length ≤ w.cap →
    ∃ cs : List Bytes,
      (∀ c ∈ cs, c ≠ []) ∧
      (writeChunks input w 10240 used).1.out = w.out ++ (cs.map frame).flatten ∧
      (writeChunks input w 10240 used).1.cap = w.cap ∧
      (writeChunks input w 10240 used).1.out.length ≤ w.cap ∧
      (writeChunks input w 10240 used).2 = used + consumedLen input.length w.available ∧
      cs.flatten = input.take (consumedLen input.length w.available) := by
  intro n
  induction n using Nat.strongRecOn with
  | _ n ih =>
    intro input w used hn hcap
    rw [writeChunks_step, consumedLen]
    have hci := chunkOf_le input.length w.available
    have hfits := @chunkOf_fits input.length w.available
    generalize chunkOf input.length w.available = k at *
    split
    · exact ⟨[], nofun, (List.append_nil _).symm, rfl, hcap, rfl, List.take_zero.symm⟩
    · rename_i h0
      have htl : (input.take k).length = k := List.length_take_of_le hci
      have hne : input.take k ≠ [] := fun e => h0 (by rw [← htl, e]; rfl)
      have hcap' : (w.out ++ frame (input.take k)).length ≤ w.cap := by
        have := hfits h0
        rw [List.length_append, frame_length, htl]
        unfold W.available at this
        omega
      have hav : ({ w with out := w.out ++ frame (input.take k) } : W).available = w.available - frameLen k := by
        rw [available_after, frame_length, htl]
      split
      · obtain ⟨cs, cs_ne, out_eq, cap_eq, out_le, used_eq, cs_flat⟩ := ih (input.length - k) (by omega)
          (input.drop k) { w with out := w.out ++ frame (input.take k) } (used + k) List.length_drop hcap'
        rw [List.length_drop, hav] at used_eq cs_flat
        refine ⟨input.take k :: cs, List.forall_mem_cons.mpr ⟨hne, cs_ne⟩, ?_, cap_eq, out_le, ?_, ?_⟩
        · rw [out_eq, List.map_cons, List.flatten_cons, List.append_assoc]
        · rw [used_eq, Nat.add_assoc]
        · rw [List.flatten_cons, cs_flat, ← List.take_add]
      · refine ⟨[input.take k], List.forall_mem_singleton.mpr hne, ?_, rfl, hcap', rfl, ?_⟩
        · simp
        · simp

theorem wireOf_false (cs : List Bytes) : wireOf cs false = (cs.map frame).flatten := by
  rw [wireOf, if_neg Bool.false_ne_true, List.append_nil]

theorem wireOf_nil (e : Bool) : wireOf [] e = if e then termBytes else [] := rfl

theorem BodyWriter.eq_mk {bw : BodyWriter} {m : SenderMode} {e : Bool} (hm : bw.mode = m) (he : bw.ended = e) :
    bw = { mode := m, ended := e } := by
  cases bw
  cases hm
  cases he
  rfl

theorem writeBodyPhase_chunked (c : CallSt) {input : Bytes} (cap : Nat)
    (hm : c.writer.mode = .chunked) (he : c.writer.ended = false) (hi : input ≠ []) :
    ∃ cs : List Bytes, (∀ x ∈ cs, x ≠ []) ∧ cs.flatten = input.take (consumedLen input.length cap) ∧
      ((cs.map frame).flatten).length ≤ cap ∧
      c.writeBodyPhase input cap = (c, .ok (consumedLen input.length cap, (cs.map frame).flatten)) := by
  obtain ⟨cs, cs_ne, out_eq, _, out_le, used_eq, cs_flat⟩ :=
    writeChunks_spec input.length input { out := [], cap := cap } 0 rfl (Nat.zero_le _)
  have hav : ({ out := [], cap := cap } : W).available = cap := Nat.sub_zero cap
  rw [hav, Nat.zero_add] at used_eq
  rw [hav] at cs_flat
  rw [List.nil_append] at out_eq
  refine ⟨cs, cs_ne, cs_flat, by rw [← out_eq]; exact out_le, ?_⟩
  unfold CallSt.writeBodyPhase
  simp [hm, he, BodyWriter.overLimit, BodyWriter.leftToSend, BodyWriter.write, List.isEmpty_eq_false_iff.mpr hi, out_eq,
    used_eq]

/-- `5` is the length of `termBytes`: the body ends when the terminator fits -/
theorem writeBodyPhase_chunked_nil (c : CallSt) (cap : Nat)
    (hm : c.writer.mode = .chunked) (he : c.writer.ended = false) :
    c.writeBodyPhase [] cap =
      ({ c with writer := { mode := .chunked, ended := decide (5 ≤ cap) } }, .ok (0, wireOf [] (decide (5 ≤ cap)))) := by
  unfold CallSt.writeBodyPhase
  by_cases h5 : 5 ≤ cap <;>
    simp [hm, he, BodyWriter.overLimit, BodyWriter.leftToSend, BodyWriter.write, W.tryWrite, W.available, termBytes, wireOf, h5]
