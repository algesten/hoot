import Hoot.Spec.Chunked

/-! concrete size fields: hex digits (either case, leading zeros allowed) parse to their value -/

theorem isHexN_cases {n : Nat} (h : isHexN n = true) : (48 ≤ n ∧ n ≤ 57) ∨ (97 ≤ n ∧ n ≤ 102) ∨ (65 ≤ n ∧ n ≤ 70) := by
  simp [isHexN] at h
  omega

theorem isHexB_ne {b : UInt8} (h : isHexB b = true) : b ≠ CR ∧ b ≠ 59 := by
  have := isHexN_cases h
  constructor <;> (rintro rfl; simp [CR] at this)

theorem utf8Decode_ascii (ds : Bytes) (h : ∀ b ∈ ds, b.toNat < 128) :
    ∀ fuel, ds.length ≤ fuel → utf8Decode fuel ds = some (ds.map UInt8.toNat) := by
  induction ds with
  | nil =>
    intro fuel _
    cases fuel <;> simp [utf8Decode]
  | cons b bs ih =>
    intro fuel hf
    cases fuel with
    | zero => simp at hf
    | succ fuel =>
      have hb : b.toNat < 128 := h b (by simp)
      have hrec := ih (fun x hx => h x (by simp [hx])) fuel (by simp at hf; omega)
      simp [utf8Decode, utf8Next, hb, hrec]

theorem hexValC_hex {n : Nat} (h : isHexN n = true) : hexValC n = some (hexValN n) := by
  have := isHexN_cases h
  unfold hexValC hexValN
  split
  · rfl
  · split
    · rfl
    · rw [if_pos (by omega)]

theorem isWhite_hex {n : Nat} (h : isHexN n = true) : isWhite n = false := by
  have := isHexN_cases h
  unfold isWhite
  simp
  omega

theorem le_hexFold (l : Bytes) : ∀ a : Nat, a ≤ l.foldl (fun a b => a * 16 + hexValN b.toNat) a := by
  induction l with
  | nil =>
    intro a
    simp
  | cons x xs ihx =>
    intro a
    have := ihx (a * 16 + hexValN x.toNat)
    simp only [List.foldl_cons]
    omega

theorem radix16_hex (ds : Bytes) (h : ∀ b ∈ ds, isHexB b = true) :
    ∀ acc, ds.foldl (fun a b => a * 16 + hexValN b.toNat) acc ≤ USIZE_MAX →
      radix16 (ds.map UInt8.toNat) acc = some (ds.foldl (fun a b => a * 16 + hexValN b.toNat) acc) := by
  induction ds with
  | nil =>
    intro acc _
    simp [radix16]
  | cons b bs ih =>
    intro acc hle
    have hb : isHexN b.toNat = true := h b (by simp)
    simp only [List.map_cons, radix16, hexValC_hex hb, List.foldl_cons] at hle ⊢
    have hstep : acc * 16 + hexValN b.toNat ≤ USIZE_MAX := Nat.le_trans (le_hexFold bs _) hle
    simp [hstep]
    exact ih (fun x hx => h x (by simp [hx])) _ hle

theorem trimChars_id (cs : List Nat) (h : ∀ c ∈ cs, isWhite c = false) : trimChars cs = cs := by
  have key : ∀ l : List Nat, (∀ c ∈ l, isWhite c = false) → l.dropWhile isWhite = l := by
    intro l hl
    cases l with
    | nil => rfl
    | cons x xs => exact List.dropWhile_cons_of_neg (by simp [hl x (by simp)])
  unfold trimChars
  rw [key cs h, key cs.reverse (fun c hc => h c (List.mem_reverse.mp hc)), List.reverse_reverse]

theorem fromStrRadix16_cons {c : Nat} (cs : List Nat) (h43 : c ≠ 43) (h45 : c ≠ 45) :
    fromStrRadix16 (c :: cs) = radix16 (c :: cs) 0 := by
  unfold fromStrRadix16
  split
  all_goals simp_all

theorem parseSizeField_hex (ds : Bytes) (hne : ds ≠ []) (h : ∀ b ∈ ds, isHexB b = true)
    (hle : hexValue ds ≤ USIZE_MAX) : parseSizeField ds = .ok (hexValue ds) := by
  have hlt : ∀ b ∈ ds, b.toNat < 128 := by
    intro b hb
    have := isHexN_cases (h b hb)
    omega
  have htrim : trimChars (ds.map UInt8.toNat) = ds.map UInt8.toNat := by
    refine trimChars_id _ (fun c hc => ?_)
    obtain ⟨b, hb, rfl⟩ := List.mem_map.mp hc
    exact isWhite_hex (h b hb)
  obtain ⟨b0, bs, rfl⟩ := List.exists_cons_of_ne_nil hne
  -- a hex digit is not a sign, so `from_str_radix` goes straight to the digits
  have hsign : b0.toNat ≠ 43 ∧ b0.toNat ≠ 45 := by
    have := isHexN_cases (h b0 (by simp))
    omega
  unfold parseSizeField
  rw [utf8Decode_ascii _ hlt _ (by omega)]
  simp only [htrim]
  rw [List.map_cons, fromStrRadix16_cons _ hsign.1 hsign.2, ← List.map_cons,
    radix16_hex _ h 0 (by simpa [hexValue] using hle)]
  rfl
