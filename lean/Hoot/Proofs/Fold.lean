/-! `σ.foldl step x` is a caller's loop run along a schedule `σ`. -/

theorem foldl_invariant {α β : Type _} {step : α → β → α} {Inv : α → Prop} {ok : β → Prop}
    (hstep : ∀ x s, Inv x → ok s → Inv (step x s)) (σ : List β) (x : α) (hx : Inv x) (hσ : ∀ s ∈ σ, ok s) :
    Inv (σ.foldl step x) :=
  List.foldlRecOn σ step hx fun y hy s hs => hstep y s hy (hσ s hs)

theorem foldl_reaches {α β : Type _} {step : α → β → α} {Inv done : α → Prop} {good : β → Prop} (μ : α → Nat)
    (hinv : ∀ x s, Inv x → good s → Inv (step x s))
    (hdone : ∀ x s, done x → done (step x s))
    (hprog : ∀ x s, Inv x → good s → done (step x s) ∨ μ (step x s) < μ x) :
    ∀ (σ : List β) (x : α), Inv x → (∀ s ∈ σ, good s) → μ x < σ.length → done (σ.foldl step x)
  | [], _, _, _, hlen => absurd hlen (Nat.not_lt_zero _)
  | s :: σ, x, hx, hσ, hlen => by
    have hs := hσ s List.mem_cons_self
    have hσ' : ∀ t ∈ σ, good t := fun t ht => hσ t (List.mem_cons_of_mem s ht)
    rw [List.foldl_cons]
    rcases hprog x s hx hs with hd | hlt
    · exact List.foldlRecOn σ step hd fun y hy t _ => hdone y t hy
    · exact foldl_reaches μ hinv hdone hprog σ _ (hinv x s hx hs) hσ' (by rw [List.length_cons] at hlen; omega)
