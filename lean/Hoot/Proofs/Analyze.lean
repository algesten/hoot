import Hoot.Model.Req

/-! Request analysis in normal form. `analyzeRequest_eq` names the two amendments `analyze_request` makes (`hostStep`,
    `bodyStep`); both are `setHeaders` of a part of `derivedHeaders`, hence one `setHeaders` of the whole. -/

def hostStep (r : AReq) (info : ReqInfo) : AReq × Except Fault Unit :=
  if !info.reqHostHeader then r.setHeader { name := "host", value := strBytes r.effUri.host } else (r, .ok ())

def bodyStep (r1 : AReq) (info : ReqInfo) : AReq × Except Fault Unit :=
  if !info.reqBodyHeader && info.bodyMode.hasBody then
    match info.bodyMode.bodyHeader with
    | some h => r1.setHeader h
    | none => (r1, .ok ())
  else (r1, .ok ())

theorem analyzeRequest_eq (c : CallSt) (hna : c.analyzed = false) :
    c.analyzeRequest =
      match c.req.analyze c.writer c.skipCheck with
      | .error e => (c, .error (.api e))
      | .ok info =>
        match hostStep c.req info with
        | (req1, .error f) => ({ c with req := req1 }, .error f)
        | (req1, .ok ()) =>
          match bodyStep req1 info with
          | (req2, .error f) => ({ c with req := req2 }, .error f)
          | (req2, .ok ()) => ({ c with req := req2, writer := info.bodyMode, analyzed := true }, .ok ()) := by
  unfold CallSt.analyzeRequest
  simp only [hna, Bool.false_eq_true, if_false]
  cases c.req.analyze c.writer c.skipCheck with
  | error e => rfl
  | ok info =>
    dsimp only
    rw [show (if (!info.reqHostHeader) = true then c.req.setHeader { name := "host", value := strBytes c.req.effUri.host }
              else (c.req, Except.ok ())) = hostStep c.req info from rfl]
    rcases hostStep c.req info with ⟨req1, r1⟩
    cases r1 with
    | error f => rfl
    | ok u =>
      dsimp only
      unfold bodyStep
      by_cases hc : (!info.reqBodyHeader && info.bodyMode.hasBody) = true
      · simp only [hc, if_true]
        cases info.bodyMode.bodyHeader with
        | none => rfl
        | some h =>
          dsimp only
          rcases req1.setHeader h with ⟨req2, r2⟩
          cases r2 <;> rfl
      · simp only [hc, Bool.false_eq_true, if_false]

theorem bodyHeader_isSome (bw : BodyWriter) : bw.bodyHeader.isSome = bw.hasBody := by
  unfold BodyWriter.bodyHeader BodyWriter.hasBody
  cases bw.mode <;> rfl

theorem bodyHeader_name {bw : BodyWriter} {h : Hdr} (e : bw.bodyHeader = some h) :
    h.name = "content-length" ∨ h.name = "transfer-encoding" := by
  unfold BodyWriter.bodyHeader at e
  split at e
  · cases e
  · cases e
    exact Or.inl rfl
  · cases e
    exact Or.inr rfl

def derivedHeaders (r : AReq) (info : ReqInfo) : List Hdr :=
  (if info.reqHostHeader then [] else [{ name := "host", value := strBytes r.effUri.host }]) ++
  (if info.reqBodyHeader then [] else info.bodyMode.bodyHeader.toList)

/-- the request after a successful analysis: the derived headers follow the caller's additions -/
def AReq.withDerived (r : AReq) (info : ReqInfo) : AReq := { r with added := r.added ++ derivedHeaders r info }

theorem derivedHeaders_length_le (r : AReq) (info : ReqInfo) : (derivedHeaders r info).length ≤ 2 := by
  unfold derivedHeaders
  cases info.reqHostHeader <;> cases info.reqBodyHeader <;> cases info.bodyMode.bodyHeader <;> simp

theorem mem_derivedHeaders {r : AReq} {info : ReqInfo} {h : Hdr} :
    h ∈ derivedHeaders r info ↔
      (info.reqHostHeader = false ∧ h = { name := "host", value := strBytes r.effUri.host }) ∨
      (info.reqBodyHeader = false ∧ info.bodyMode.bodyHeader = some h) := by
  unfold derivedHeaders
  cases info.reqHostHeader <;> cases info.reqBodyHeader <;> simp [eq_comm]

theorem derivedHeaders_name {r : AReq} {info : ReqInfo} {h : Hdr} (hin : h ∈ derivedHeaders r info) :
    h.name = "host" ∨ h.name = "content-length" ∨ h.name = "transfer-encoding" := by
  rcases mem_derivedHeaders.mp hin with ⟨_, e⟩ | ⟨_, hb⟩
  · rw [e]
    exact Or.inl rfl
  · exact Or.inr (bodyHeader_name hb)

theorem derivedHeaders_host_count (r : AReq) (info : ReqInfo) :
    ((derivedHeaders r info).filter (·.name == "host")).length = if info.reqHostHeader then 0 else 1 := by
  -- a framing header is not named `host`
  have hfr : (if info.reqBodyHeader then [] else info.bodyMode.bodyHeader.toList).filter (·.name == "host") = [] := by
    rw [List.filter_eq_nil_iff]
    intro h hin
    split at hin
    · cases hin
    · rcases bodyHeader_name (Option.mem_toList.mp hin) with e | e
      · rw [e]
        decide
      · rw [e]
        decide
  unfold derivedHeaders
  rw [List.filter_append, hfr, List.append_nil]
  cases info.reqHostHeader <;> rfl

theorem hostCheck_ok {r : AReq} {b : Bool} (h : r.hostCheck = .ok b) : b = (r.getAll "host").head?.isSome := by
  unfold AReq.hostCheck at h
  split at h
  · rename_i x hx
    split at h
    · cases h
      rw [hx]
      rfl
    · cases h
  · rename_i hx
    cases h
    rw [hx]
    rfl

theorem contentLength_ok {r : AReq} {cl : Option Nat} (h : r.contentLength? = .ok cl) :
    (cl = none ∧ r.getAll "content-length" = []) ∨
    (∃ n v rest, cl = some n ∧ r.getAll "content-length" = v :: rest ∧ (toStr? v).bind parseU64 = some n) := by
  unfold AReq.contentLength? at h
  cases hq : r.getAll "content-length" with
  | nil =>
    rw [hq] at h
    cases h
    exact Or.inl ⟨rfl, rfl⟩
  | cons v rest =>
    simp only [hq, List.head?_cons] at h
    cases hp : (toStr? v).bind parseU64 with
    | none =>
      rw [hp] at h
      cases h
    | some n =>
      rw [hp] at h
      cases h
      exact Or.inr ⟨n, v, rest, rfl, rfl, hp⟩

theorem contentLength_ok_some {r : AReq} {cl : Option Nat} (h : r.contentLength? = .ok cl) :
    cl.isSome = ((r.getAll "content-length").head?).isSome := by
  rcases contentLength_ok h with ⟨rfl, e⟩ | ⟨n, v, rest, rfl, e, _⟩
  · rw [e]
    rfl
  · rw [e]
    rfl

/-- what `analyze` has checked when it succeeds, and what `info` then records; `cl` is the caller's `Content-Length` -/
structure AnalyzeOk (r : AReq) (w : BodyWriter) (sk : Bool) (info : ReqInfo) (cl : Option Nat) : Prop where
  host_le_one : (r.getAll "host").length ≤ 1
  cl_le_one : (r.getAll "content-length").length ≤ 1
  reqHostHeader : info.reqHostHeader = (r.getAll "host").head?.isSome
  contentLength : r.contentLength? = .ok cl
  bodyMode : info.bodyMode = bodyModeOf r.hasChunked cl w
  reqBodyHeader : info.reqBodyHeader = (r.hasChunked || cl.isSome)
  hasBody : sk = false → info.bodyMode.hasBody = r.method.needBody

theorem analyze_ok {r : AReq} {w : BodyWriter} {sk : Bool} {info : ReqInfo} (h : r.analyze w sk = .ok info) :
    ∃ cl, AnalyzeOk r w sk info cl := by
  unfold AReq.analyze at h
  -- the one `.ok` stands at the end of the cascade, behind every guard
  split at h
  · cases h                 -- `verifyVersion`
  split at h
  · cases h                 -- more than one `Host`
  rename_i hostLe
  split at h
  · cases h                 -- more than one `Content-Length`
  rename_i clLe
  split at h
  · cases h                 -- `hostCheck`
  rename_i reqHost hHost
  split at h
  · cases h                 -- `contentLength?`
  rename_i cl hCl
  split at h
  · cases h                 -- a body where the method forbids one
  rename_i notForbidden
  split at h
  · cases h                 -- no body where the method requires one
  rename_i notMissing
  injection h with h
  subst h
  refine ⟨cl, by omega, by omega, hostCheck_ok hHost, hCl, rfl, rfl, ?_⟩
  intro hsk
  subst hsk
  cases hn : r.method.needBody <;> cases hb : (bodyModeOf r.hasChunked cl w).hasBody <;>
    simp [hn, hb] at notForbidden notMissing ⊢

theorem analyze_ok_nobody {r : AReq} {w : BodyWriter} {sk : Bool} {info : ReqInfo} (h : r.analyze w sk = .ok info)
    (hsk : sk = false) (hnb : r.method.needBody = false) : info.bodyMode = w := by
  obtain ⟨cl, ok⟩ := analyze_ok h
  have hno := ok.hasBody hsk
  rw [hnb, ok.bodyMode] at hno
  rw [ok.bodyMode]
  -- `bodyModeOf` only departs from `w` for a body
  unfold bodyModeOf at hno ⊢
  split
  · rw [if_pos ‹_›] at hno
    cases hno
  · rw [if_neg ‹_›] at hno
    split
    · cases hno
    · rfl

/-- `set_header(h)?` for each `h` of `hs` in turn, as call.rs does for the derived headers -/
def AReq.setHeaders (r : AReq) : List Hdr → AReq × Except Fault Unit
  | [] => (r, .ok ())
  | h :: hs =>
    if r.added.length < MAX_EXTRA then AReq.setHeaders { r with added := r.added ++ [h] } hs
    else (r, .error (.panic "ArrayVec push: headers"))

theorem setHeaders_eq (hs : List Hdr) : ∀ r : AReq, r.setHeaders hs =
    if hs.length ≤ MAX_EXTRA - r.added.length then ({ r with added := r.added ++ hs }, .ok ())
    else ({ r with added := r.added ++ hs.take (MAX_EXTRA - r.added.length) },
          .error (.panic "ArrayVec push: headers")) := by
  induction hs with
  | nil =>
    intro r
    simp [AReq.setHeaders]
  | cons h hs ih =>
    intro r
    rw [AReq.setHeaders]
    by_cases hr : r.added.length < MAX_EXTRA
    · -- `h` goes in; the room left for `hs` is one less
      have hk : MAX_EXTRA - r.added.length = (MAX_EXTRA - (r.added.length + 1)) + 1 := by omega
      rw [if_pos hr, ih, hk, List.take_succ_cons]
      simp only [List.length_append, List.length_cons, List.length_nil, Nat.zero_add, Nat.add_le_add_iff_right,
        List.append_assoc, List.singleton_append]
    · have hk : MAX_EXTRA - r.added.length = 0 := by omega
      simp [hr, hk]

theorem setHeaders_append (l₁ l₂ : List Hdr) : ∀ r : AReq, r.setHeaders (l₁ ++ l₂) =
    match r.setHeaders l₁ with
    | (r₁, .error f) => (r₁, .error f)
    | (r₁, .ok ()) => r₁.setHeaders l₂ := by
  induction l₁ with
  | nil =>
    intro r
    rfl
  | cons h l₁ ih =>
    intro r
    rw [List.cons_append, AReq.setHeaders, AReq.setHeaders]
    split
    · exact ih _
    · rfl

theorem hostStep_eq (r : AReq) (info : ReqInfo) : hostStep r info =
    r.setHeaders (if info.reqHostHeader then [] else [{ name := "host", value := strBytes r.effUri.host }]) := by
  unfold hostStep
  cases info.reqHostHeader
  · simp [AReq.setHeaders, AReq.setHeader]
  · rfl

/-- `hasBody` says no more than that there is a framing header to push -/
theorem bodyStep_eq (r : AReq) (info : ReqInfo) : bodyStep r info =
    r.setHeaders (if info.reqBodyHeader then [] else info.bodyMode.bodyHeader.toList) := by
  unfold bodyStep
  rw [← bodyHeader_isSome]
  cases info.reqBodyHeader
  · cases info.bodyMode.bodyHeader with
    | none => rfl
    | some h => simp [AReq.setHeaders, AReq.setHeader]
  · rfl

theorem analyzeRequest_of_analyzed {c : CallSt} (h : c.analyzed = true) : c.analyzeRequest = (c, .ok ()) := by
  simp [CallSt.analyzeRequest, h]

theorem analyzeRequest_of_error {c : CallSt} {e : ErrKind} (hna : c.analyzed = false)
    (ha : c.req.analyze c.writer c.skipCheck = .error e) : c.analyzeRequest = (c, .error (.api e)) := by
  simp [CallSt.analyzeRequest, hna, ha]

theorem analyzeRequest_of_ok {c : CallSt} {info : ReqInfo} (hna : c.analyzed = false)
    (ha : c.req.analyze c.writer c.skipCheck = .ok info) :
    c.analyzeRequest =
      if (derivedHeaders c.req info).length ≤ MAX_EXTRA - c.req.added.length then
        ({ c with req := c.req.withDerived info, writer := info.bodyMode, analyzed := true }, .ok ())
      else
        ({ c with req := { c.req with
              added := c.req.added ++ (derivedHeaders c.req info).take (MAX_EXTRA - c.req.added.length) } },
         .error (.panic "ArrayVec push: headers")) := by
  have h2 : c.analyzeRequest =
      match c.req.setHeaders (derivedHeaders c.req info) with
      | (r, .error f) => ({ c with req := r }, .error f)
      | (r, .ok ()) => ({ c with req := r, writer := info.bodyMode, analyzed := true }, .ok ()) := by
    rw [analyzeRequest_eq c hna, ha, derivedHeaders, setHeaders_append]
    dsimp only
    rw [hostStep_eq]
    rcases c.req.setHeaders _ with ⟨r₁, f | u⟩
    · rfl
    · dsimp only
      rw [bodyStep_eq]
  rw [h2, setHeaders_eq]
  by_cases hfit : (derivedHeaders c.req info).length ≤ MAX_EXTRA - c.req.added.length
  · rw [if_pos hfit, if_pos hfit]
    rfl
  · rw [if_neg hfit, if_neg hfit]

theorem analyzeRequest_of_ok_room {c : CallSt} {info : ReqInfo} (hna : c.analyzed = false)
    (ha : c.req.analyze c.writer c.skipCheck = .ok info) (hroom : c.req.added.length + 2 ≤ MAX_EXTRA) :
    c.analyzeRequest = ({ c with req := c.req.withDerived info, writer := info.bodyMode, analyzed := true }, .ok ()) := by
  rw [analyzeRequest_of_ok hna ha, if_pos]
  have := derivedHeaders_length_le c.req info
  omega

theorem analyzeRequest_ok_inv {c : CallSt} (hna : c.analyzed = false) (hok : c.analyzeRequest.2 = .ok ()) :
    ∃ info, c.req.analyze c.writer c.skipCheck = .ok info ∧
      c.analyzeRequest.1 = { c with req := c.req.withDerived info, writer := info.bodyMode, analyzed := true } := by
  cases ha : c.req.analyze c.writer c.skipCheck with
  | error e =>
    rw [analyzeRequest_of_error hna ha] at hok
    cases hok
  | ok info =>
    rw [analyzeRequest_of_ok hna ha] at hok ⊢
    split at hok
    · rename_i hroom
      exact ⟨info, rfl, by rw [if_pos hroom]⟩
    · cases hok

theorem analyzeRequest_frame (c : CallSt) : ∃ extra w a,
    c.analyzeRequest.1 = { c with req := { c.req with added := c.req.added ++ extra }, writer := w, analyzed := a } ∧
    (∀ h ∈ extra, h.name = "host" ∨ h.name = "content-length" ∨ h.name = "transfer-encoding") ∧
    (w = c.writer ∨ ∃ cl, w = bodyModeOf c.req.hasChunked cl c.writer) := by
  cases hna : c.analyzed with
  | true =>
    rw [analyzeRequest_of_analyzed hna]
    exact ⟨[], c.writer, c.analyzed, by rw [List.append_nil], nofun, Or.inl rfl⟩
  | false =>
    cases ha : c.req.analyze c.writer c.skipCheck with
    | error e =>
      rw [analyzeRequest_of_error hna ha]
      exact ⟨[], c.writer, c.analyzed, by rw [List.append_nil], nofun, Or.inl rfl⟩
    | ok info =>
      obtain ⟨cl, ok⟩ := analyze_ok ha
      rw [analyzeRequest_of_ok hna ha]
      split
      · exact ⟨_, _, _, rfl, fun _ => derivedHeaders_name, Or.inr ⟨cl, ok.bodyMode⟩⟩
      · exact ⟨_, _, _, rfl, fun _ h => derivedHeaders_name (List.mem_of_mem_take h), Or.inl rfl⟩

theorem analyzeRequest_extra (c : CallSt) :
    ∃ extra, c.analyzeRequest.1.req.added = c.req.added ++ extra ∧
      c.analyzeRequest.1.req.orig = c.req.orig ∧ c.analyzeRequest.1.req.unset = c.req.unset ∧
      ∀ h ∈ extra, h.name = "host" ∨ h.name = "content-length" ∨ h.name = "transfer-encoding" := by
  obtain ⟨extra, _, _, e, hn, _⟩ := analyzeRequest_frame c
  rw [e]
  exact ⟨extra, rfl, rfl, rfl, hn⟩

theorem getAll_withDerived_length (r : AReq) (info : ReqInfo) (key : String) :
    ((r.withDerived info).getAll key).length =
      (r.getAll key).length + ((derivedHeaders r info).filter (·.name == key)).length := by
  simp only [AReq.withDerived, AReq.getAll, AReq.headers, List.filter_append, List.map_append, List.length_append,
    List.length_map]
  omega

theorem mem_getAll_withDerived {r : AReq} {info : ReqInfo} {h : Hdr} (hin : h ∈ derivedHeaders r info) :
    h.value ∈ (r.withDerived info).getAll h.name := by
  simp only [AReq.withDerived, AReq.getAll, AReq.headers, List.mem_map, List.mem_filter, List.mem_append]
  exact ⟨h, ⟨Or.inl (Or.inr hin), beq_self_eq_true _⟩, rfl⟩

theorem getAll_analyzed_of_ne (r : AReq) {info : ReqInfo} {key : String} (hk : ("host" == key) = false)
    (hfr : ∀ h, info.reqBodyHeader = false → info.bodyMode.bodyHeader = some h → (h.name == key) = false) :
    (r.withDerived info).getAll key = r.getAll key := by
  have hnil : (derivedHeaders r info).filter (·.name == key) = [] := by
    rw [List.filter_eq_nil_iff]
    intro x hx
    rcases mem_derivedHeaders.mp hx with ⟨_, e⟩ | ⟨hf, hb⟩
    · rw [e, hk]
      exact Bool.false_ne_true
    · rw [hfr x hf hb]
      exact Bool.false_ne_true
  simp only [AReq.withDerived, AReq.getAll, AReq.headers, List.filter_append, hnil, List.append_nil]

/-- an analysed request has a `Host`, the caller's or the derived one; in particular it has a header -/
theorem analyzed_headers_ne_nil {r : AReq} {w : BodyWriter} {sk : Bool} {info : ReqInfo}
    (ha : r.analyze w sk = .ok info) : (r.withDerived info).headers ≠ [] := by
  obtain ⟨_, ok⟩ := analyze_ok ha
  intro e
  simp only [AReq.withDerived, AReq.headers, List.append_eq_nil_iff] at e
  obtain ⟨⟨ea, ed⟩, eo⟩ := e
  have hg : r.getAll "host" = [] := by rw [AReq.getAll, AReq.headers, ea, eo]; rfl
  have hh : info.reqHostHeader = false := by rw [ok.reqHostHeader, hg]; rfl
  have hin := (mem_derivedHeaders (r := r)).mpr (Or.inl ⟨hh, rfl⟩)
  rw [ed] at hin
  cases hin
