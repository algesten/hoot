import Hoot.Proofs.FlowSpecs
import Hoot.Proofs.Analyze

theorem flow_step_prepare {hack : Bool} {f : Flow} {op : Op} (h : f.st = .prepare) :
    f.step hack op = stepPrepare f op := by unfold Flow.step; simp [h]

theorem flow_step_sendRequest {hack : Bool} {f : Flow} {op : Op} (h : f.st = .sendRequest) :
    f.step hack op = stepSendRequest f op := by unfold Flow.step; simp [h]

theorem flow_step_await100 {hack : Bool} {f : Flow} {op : Op} (h : f.st = .await100) :
    f.step hack op = stepAwait100 f op := by unfold Flow.step; simp [h]

theorem flow_step_sendBody {hack : Bool} {f : Flow} {op : Op} (h : f.st = .sendBody) :
    f.step hack op = stepSendBody f op := by unfold Flow.step; simp [h]

theorem flow_step_recvResponse {hack : Bool} {f : Flow} {op : Op} (h : f.st = .recvResponse) :
    f.step hack op = stepRecvResponse hack f op := by unfold Flow.step; simp [h]

theorem flow_step_recvBody {hack : Bool} {f : Flow} {op : Op} (h : f.st = .recvBody) :
    f.step hack op = stepRecvBody f op := by unfold Flow.step; simp [h]

theorem flow_step_redirect {hack : Bool} {f : Flow} {op : Op} (h : f.st = .redirect) :
    f.step hack op = stepRedirect f op := by unfold Flow.step; simp [h]

theorem flow_step_cleanup {hack : Bool} {f : Flow} {op : Op} (h : f.st = .cleanup) :
    f.step hack op = stepCleanup f op := by unfold Flow.step; simp [h]

theorem nodup_length_le_5 (l : List CloseReason) (h : l.Nodup) : l.length ≤ 5 :=
  h.length_le_of_subset (l₂ := [.http10, .clientClose, .serverClose, .not100, .closeDelimited])
    (fun r _ => by cases r <;> simp)

theorem pushReason_eq (l : List CloseReason) (r : CloseReason) (h : l.Nodup) :
    ∃ l', pushReason l r = (l', .ok ()) ∧ l'.Nodup ∧ ∀ x, x ∈ l' ↔ x ∈ l ∨ x = r := by
  unfold pushReason
  by_cases hin : r ∈ l
  · exact ⟨l, by simp [hin], h, fun x => ⟨.inl, fun hx => hx.elim id (· ▸ hin)⟩⟩
  · have hnd : (l ++ [r]).Nodup := by
      rw [List.nodup_append]
      refine ⟨h, by simp, ?_⟩
      intro a ha b hb e
      simp at hb
      exact hin (hb ▸ e ▸ ha)
    have hlen := nodup_length_le_5 _ hnd
    simp at hlen
    exact ⟨l ++ [r], by simp [hin]; omega, hnd, by simp⟩

theorem pushReason_ok (l : List CloseReason) (r : CloseReason) (h : l.Nodup) :
    (pushReason l r).2 = .ok () ∧ (pushReason l r).1.Nodup := by
  obtain ⟨l', e, hnd, _⟩ := pushReason_eq l r h
  rw [e]
  exact ⟨rfl, hnd⟩

theorem pushReason_mem_iff (l : List CloseReason) (r x : CloseReason) (h : l.Nodup) :
    x ∈ (pushReason l r).1 ↔ x ∈ l ∨ x = r := by
  obtain ⟨l', e, _, hm⟩ := pushReason_eq l r h
  rw [e]
  exact hm x

theorem pushReason_if (l : List CloseReason) (r : CloseReason) (b : Prop) [Decidable b] (h : l.Nodup) :
    (if b then (pushReason l r).1 else l).Nodup ∧
    ∀ c, c ∈ (if b then (pushReason l r).1 else l) ↔ c ∈ l ∨ (c = r ∧ b) := by
  by_cases hb : b
  · rw [if_pos hb]
    exact ⟨(pushReason_ok l r h).2, fun c => by rw [pushReason_mem_iff l r c h, and_iff_left hb]⟩
  · rw [if_neg hb]
    exact ⟨h, fun c => ⟨Or.inl, fun hc => hc.elim id fun hc' => absurd hc'.2 hb⟩⟩

theorem refuse100_spec (f : Flow) (hn : f.closeReasons.Nodup) :
    ∃ l : List CloseReason, l.Nodup ∧ (∀ r, r ∈ l ↔ r ∈ f.closeReasons ∨ r = .not100) ∧
      refuse100 f = ({ f with closeReasons := l, shouldSendBody := false }, .count 0) := by
  obtain ⟨l, e, hnd, hmem⟩ := pushReason_eq f.closeReasons .not100 hn
  refine ⟨l, hnd, hmem, ?_⟩
  unfold refuse100
  rw [e]

theorem setHeader_ok (r : AReq) (h : Hdr) (hl : r.added.length < MAX_EXTRA) :
    r.setHeader h = ({ r with added := r.added ++ [h] }, .ok ()) := by
  simp [AReq.setHeader, hl]

theorem bodyModeOf_mode (hc : Bool) (cl : Option Nat) (wanted : BodyWriter) (hw : wanted.mode ≠ .none) :
    (bodyModeOf hc cl wanted).mode ≠ .none := by
  unfold bodyModeOf
  cases hc <;> cases cl <;> simp [BodyWriter.newChunked, BodyWriter.newSized, hw]

theorem analyze_bodyMode_mode {r : AReq} {w : BodyWriter} {sk : Bool} {info : ReqInfo}
    (ha : r.analyze w sk = .ok info) (hw : w.mode ≠ .none) : info.bodyMode.mode ≠ .none := by
  obtain ⟨_, ok⟩ := analyze_ok ha
  rw [ok.bodyMode]
  exact bodyModeOf_mode _ _ _ hw

theorem analyzeRequest_phase (c : CallSt) : c.analyzeRequest.1.phase = c.phase := by
  obtain ⟨_, _, _, e, _⟩ := analyzeRequest_frame c
  rw [e]

theorem analyzeRequest_method (c : CallSt) : c.analyzeRequest.1.req.method = c.req.method := by
  obtain ⟨_, _, _, e, _⟩ := analyzeRequest_frame c
  rw [e]

/-! `CallInv` is the share of `Flow.WF` that speaks of the sending side of the call alone (its fields `cap`, `hdrs`, `ph`);
    `CallKeeps c c'` is what an operation that takes the call from `c` to `c'` owes the rest of the invariant
    (`Flow.WF.setCall`). -/

structure CallInv (c : CallSt) : Prop where
  cap : c.analyzed = true ∨ c.req.added.length + 2 ≤ MAX_EXTRA
  hdrs : c.analyzed = true → c.req.headers ≠ []
  ph : c.phase ≠ .sendLine → c.analyzed = true

structure CallKeeps (c c' : CallSt) : Prop where
  inv : CallInv c'
  reader : c'.reader = c.reader
  skip : c'.skipCheck = c.skipCheck
  stop : c'.stopBoundary = c.stopBoundary
  meth : c'.req.method = c.req.method
  mode : c.writer.mode ≠ .none → c'.writer.mode ≠ .none
  none : c.skipCheck = false → c.req.method.needBody = false → c.writer = BodyWriter.newNone → c'.writer = BodyWriter.newNone
  prel : c.phase.isPrelude = false → c'.phase = c.phase

theorem CallKeeps.refl (c : CallSt) (h : CallInv c) : CallKeeps c c :=
  ⟨h, rfl, rfl, rfl, rfl, fun x => x, fun _ _ x => x, fun _ => rfl⟩

theorem CallKeeps.trans {a b c : CallSt} (h1 : CallKeeps a b) (h2 : CallKeeps b c)
    (hph : b.phase = a.phase) : CallKeeps a c :=
  ⟨h2.inv, by rw [h2.reader, h1.reader], by rw [h2.skip, h1.skip], by rw [h2.stop, h1.stop], by rw [h2.meth, h1.meth],
   fun hm => h2.mode (h1.mode hm),
   fun x y z => h2.none (by rw [h1.skip]; exact x) (by rw [h1.meth]; exact y) (h1.none x y z),
   fun hp => by rw [h2.prel (by rw [hph]; exact hp), hph]⟩

theorem analyzeRequest_spec (c : CallSt) (h : CallInv c) :
    (∀ s, c.analyzeRequest.2 ≠ .error (.panic s)) ∧ CallKeeps c c.analyzeRequest.1 ∧
    (c.analyzeRequest.2 = .ok () → c.analyzeRequest.1.analyzed = true ∧ c.analyzeRequest.1.req.headers ≠ []) := by
  cases hna : c.analyzed with
  | true =>
    rw [analyzeRequest_of_analyzed hna]
    exact ⟨nofun, .refl c h, fun _ => ⟨hna, h.hdrs hna⟩⟩
  | false =>
    cases ha : c.req.analyze c.writer c.skipCheck with
    | error e =>
      rw [analyzeRequest_of_error hna ha]
      exact ⟨nofun, .refl c h, nofun⟩
    | ok info =>
      rw [analyzeRequest_of_ok_room hna ha (h.cap.resolve_left (by simp [hna]))]
      have hhd := analyzed_headers_ne_nil ha
      have hk : CallKeeps c { c with req := c.req.withDerived info, writer := info.bodyMode, analyzed := true } :=
        { inv := ⟨.inl rfl, fun _ => hhd, fun _ => rfl⟩
          reader := rfl
          skip := rfl
          stop := rfl
          meth := rfl
          mode := analyze_bodyMode_mode ha
          none := fun h1 h2 h3 => (analyze_ok_nobody ha h1 h2).trans h3
          prel := fun _ => rfl }
      exact ⟨nofun, hk, fun _ => ⟨rfl, hhd⟩⟩

set_option linter.unusedVariables false in
theorem writeHeaders_frame (hs : List Hdr) (idx last : Nat) (w : W) : True := trivial

theorem okOrOverflow_ne_panic (b : Bool) (s : String) :
    (if b = true then Except.ok () else Except.error (Fault.api ErrKind.outputOverflow)) ≠ .error (.panic s) := by
  cases b <;> nofun

theorem writePrelude_frame (c : CallSt) (w : W) :
    (∃ ph, (writePrelude c w).1 = { c with phase := ph } ∧ (c.phase.isPrelude = false → ph = c.phase)) ∧
    (c.req.headers ≠ [] → ∀ s, (writePrelude c w).2.2 ≠ .error (.panic s)) := by
  have hlen : c.req.headers ≠ [] → ¬ c.req.headers.length = 0 := fun h e => h (List.eq_nil_of_length_eq_zero e)
  obtain ⟨req, an, ph, wr, rd, sk, sb⟩ := c
  unfold writePrelude
  cases ph with
  | sendLine =>
    dsimp only
    cases (w.tryWrite (requestLine req)).2 with
    | false =>
      simp only [Bool.false_eq_true, if_false, Bool.not_false, if_true]
      exact ⟨⟨_, rfl, nofun⟩, fun _ => okOrOverflow_ne_panic _⟩
    | true =>
      simp only [if_true, Bool.not_true, Bool.false_eq_true, if_false]
      split
      · exact ⟨⟨_, rfl, nofun⟩, fun hh => absurd ‹_› (hlen hh)⟩
      · exact ⟨⟨_, rfl, nofun⟩, fun _ => okOrOverflow_ne_panic _⟩
  | sendHeaders i =>
    simp only [Bool.not_true, Bool.false_eq_true, if_false]
    split
    · exact ⟨⟨_, rfl, nofun⟩, fun hh => absurd ‹_› (hlen hh)⟩
    · exact ⟨⟨_, rfl, nofun⟩, fun _ => okOrOverflow_ne_panic _⟩
  | _ =>
    simp only [Bool.not_true, Bool.false_eq_true, if_false]
    exact ⟨⟨_, rfl, fun _ => rfl⟩, fun _ => okOrOverflow_ne_panic _⟩

/-- what `try_read_100` takes for a refusal of the body: a complete head other than 100, or (zero header slots) a
    complete field line -/
def refuses (w : Bytes) : Prop :=
  (∃ u resp, tryParseResponse 0 w = .ok (some (u, resp)) ∧ resp.status ≠ 100) ∨
  tryParseResponse 0 w = .error (.api .httpParseTooManyHeaders)

theorem await_refused (f : Flow) (w : Bytes) (hp : refuses w) :
    stepAwait100 f (.read100 w) = refuse100 { f with await100 := false } := by
  unfold stepAwait100
  rcases hp with ⟨u, r, hp, hs⟩ | hp
  · have : (r.status == 100) = false := by simpa using hs
    simp only [hp, this, Bool.false_eq_true, if_false]
  · simp only [hp, beq_self_eq_true, if_true]

theorem await_not_refused (f : Flow) (w : Bytes) (hp : ¬ refuses w) :
    stepAwait100 f (.read100 w) =
      match tryParseResponse 0 w with
      | .ok none => (f, .count 0)
      | .ok (some (u, _)) =>
        ({ f with await100 := false },
         if f.shouldSendBody then .count u else .fault (.panic "flow.rs assert should_send_body"))
      | .error e => ({ f with await100 := false }, .fault e) := by
  unfold refuses at hp
  unfold stepAwait100
  dsimp only
  cases hq : tryParseResponse 0 w with
  | ok v =>
    cases v with
    | none => rfl
    | some p =>
      have h100 : (p.2.status == 100) = true := by
        simpa [hq] using fun h => hp (.inl ⟨p.1, p.2, by rw [hq], h⟩)
      simp only [h100, if_true]
      cases f.shouldSendBody <;> rfl
  | error e =>
    have hne : (e == Fault.api .httpParseTooManyHeaders) = false := by
      simpa [hq] using fun h => hp (.inr (by rw [hq, h]))
    simp only [hne, Bool.false_eq_true, if_false]

theorem canProceed_sendreq (f : Flow) (hst : f.st = .sendRequest) (hh : f.holder = .withoutBody ∨ f.holder = .withBody)
    (hp : f.call.phase.isPrelude = true ∨ f.call.phase = .sendBody) : f.canProceed = .ok (!f.call.phase.isPrelude) := by
  unfold Flow.canProceed
  rcases hh with e | e
  · simp only [hst, e]
  · simp only [hst, e]
    rcases hp with h | h
    · cases hq : f.call.phase <;> simp [hq, Phase.isPrelude] at h ⊢
    · rw [h]
      rfl

theorem canProceed_sendBody (f : Flow) (hst : f.st = .sendBody) (hh : f.holder = .withBody) :
    f.canProceed = .ok f.call.writer.ended := by
  simp only [Flow.canProceed, hst, hh]

/-- both `write`s of call.rs begin with `analyze_request` and `try_write_prelude`; `Call<WithBody>::write` differs only
    in the `0` it reports as consumed while the head is being written, and goes on to the body once it is out -/
theorem writeBody_prelude (c : CallSt) (input : Bytes) (cap : Nat) (hp : c.phase.isPrelude = true) :
    c.writeBody input cap =
      match c.writeNoBody cap with
      | (c', .ok out) => (c', .ok (0, out))
      | (c', .error e) => (c', .error e) := by
  have hph := analyzeRequest_phase c
  unfold CallSt.writeBody CallSt.writeNoBody
  rcases hq : c.analyzeRequest with ⟨c1, r1⟩
  rw [hq] at hph
  cases r1 with
  | error e => rfl
  | ok u =>
    cases u
    dsimp only at hph ⊢
    rw [hph, if_pos hp]
    rcases writePrelude c1 { out := [], cap := cap } with ⟨c2, w2, r2⟩
    cases r2 <;> rfl

theorem writeBody_sendBody {c : CallSt} (input : Bytes) (cap : Nat) (ha : c.analyzed = true) (hp : c.phase = .sendBody) :
    c.writeBody input cap = c.writeBodyPhase input cap := by
  unfold CallSt.writeBody
  rw [analyzeRequest_of_analyzed ha]
  simp [hp, Phase.isPrelude]

theorem stepSendRequest_write (f : Flow) (cap : Nat) (hh : f.holder = .withoutBody ∨ f.holder = .withBody)
    (han : f.call.analyzeRequest.2 = .ok ()) (hp0 : f.call.phase.isPrelude = true)
    (hp1 : f.call.analyzeRequest.1.phase.isPrelude = true) :
    stepSendRequest f (.write cap) =
      ({ f with call := (writePrelude f.call.analyzeRequest.1 { out := [], cap := cap }).1 },
       match (writePrelude f.call.analyzeRequest.1 { out := [], cap := cap }).2.2 with
       | .ok () => .bytes 0 (writePrelude f.call.analyzeRequest.1 { out := [], cap := cap }).2.1.out
       | .error e => .fault e) := by
  have hsplit : f.call.analyzeRequest = (f.call.analyzeRequest.1, .ok ()) := by rw [← han]
  rcases hh with hh | hh
  · unfold stepSendRequest CallSt.writeNoBody
    simp only [hh]
    rw [hsplit]
    dsimp only
    rcases writePrelude f.call.analyzeRequest.1 { out := [], cap := cap } with ⟨c2, w2, res⟩
    cases res <;> rfl
  · unfold stepSendRequest CallSt.writeBody
    simp only [hh, hp0, Bool.not_true, Bool.false_eq_true, if_false]
    rw [hsplit]
    dsimp only
    simp only [hp1, if_true]
    rcases writePrelude f.call.analyzeRequest.1 { out := [], cap := cap } with ⟨c2, w2, res⟩
    cases res <;> rfl

theorem stepSendBody_bwrite (f : Flow) (input : Bytes) (cap : Nat) (hh : f.holder = .withBody)
    (ha : f.call.analyzed = true) (hp : f.call.phase = .sendBody) :
    stepSendBody f (.bwrite input cap) =
      match f.call.writeBodyPhase input cap with
      | (c, .ok (n, out)) => ({ f with call := c }, .bytes n out)
      | (c, .error e) => ({ f with call := c }, .fault e) := by
  have hne : (f.holder != Holder.withBody) = false := by simp [hh]
  unfold stepSendBody
  simp only [hne, Bool.false_eq_true, if_false, writeBody_sendBody input cap ha hp]
  rcases f.call.writeBodyPhase input cap with ⟨c, res⟩
  cases res <;> rfl

/-! `proceed` once the readiness query answers true: what each state's edge does. -/

theorem stepSendRequest_proceed {f : Flow} (hc : f.canProceed = .ok true) :
    stepSendRequest f .proceed =
      if f.shouldSendBody then
        if f.await100 then ({ f with st := .await100 }, .state .await100) else enterSendBody f
      else
        match f.holder with
        | .withoutBody =>
          if f.call.writer.ended then enterRecvResponse f else (f, .fault (.panic "flow.rs into_receive unwrap"))
        | _ => (f, .fault (.panic "flow.rs SendRequest::proceed unreachable")) := by
  simp only [stepSendRequest, hc]
  cases f.call.writer.ended <;> rfl

/-- `Await100` has no readiness query -/
theorem stepAwait100_proceed (f : Flow) :
    stepAwait100 f .proceed =
      if f.shouldSendBody then enterSendBody f
      else
        match f.holder with
        | .withBody => enterRecvResponse f
        | _ => (f, .fault (.panic "flow.rs Await100::proceed unreachable")) :=
  rfl

theorem stepSendBody_proceed {f : Flow} (hh : f.holder = .withBody) (hc : f.canProceed = .ok true) :
    stepSendBody f .proceed = enterRecvResponse f := by
  simp only [stepSendBody, hh, hc, bne_self_eq_false, Bool.false_eq_true, if_false]

theorem stepRecvBody_proceed {f : Flow} (hc : f.canProceed = .ok true) :
    stepRecvBody f .proceed =
      ({ f with st := if isRedirectStatus f.status then .redirect else .cleanup },
       .state (if isRedirectStatus f.status then .redirect else .cleanup)) := by
  simp only [stepRecvBody, hc]

theorem stepRecvResponse_proceed (hack : Bool) {f : Flow} {rd : BodyReader} (hs : f.st = .recvResponse)
    (hh : f.holder = .recvResponse) (hr : f.call.reader = some rd) (hn : f.closeReasons.Nodup) :
    stepRecvResponse hack f .proceed =
      ({ f with st := graphSpec f, holder := .recvBody, call := { f.call with phase := .recvBody },
                closeReasons := if rd = .close then (pushReason f.closeReasons .closeDelimited).1 else f.closeReasons },
       .state (graphSpec f)) := by
  have hc : f.canProceed = .ok true := by simp [Flow.canProceed, hs, hh, hr]
  obtain ⟨l, hp, _⟩ := pushReason_eq f.closeReasons .closeDelimited hn
  unfold stepRecvResponse graphSpec
  simp only [hc, hs, hr, hp]
  cases rd with
  | close => simp [needResponseBody]
  | noBody => simp [needResponseBody]
  | chunked d => simp [needResponseBody]
  | len n => cases n <;> simp [needResponseBody]

/-- offering bytes for the response head, once the holder is known: `try_response` decides; a late interim 100 only
    clears the flag, any other head is recorded (status, last Location, `Connection: close`) and handed out -/
theorem stepRecvResponse_resp (hack : Bool) {f : Flow} (w : Bytes) (hh : f.holder = .recvResponse)
    (hn : f.closeReasons.Nodup) :
    stepRecvResponse hack f (.resp w) =
      match callTryResponse hack f.call w with
      | (c1, .error e) => ({ f with call := c1 }, .fault e)
      | (c1, .ok none) => ({ f with call := c1 }, .resp 0 none)
      | (c1, .ok (some (used, r))) =>
        if r.status == 100 && f.await100 then ({ f with call := c1, await100 := false }, .resp used none)
        else
          ({ f with call := c1, status := some r.status, location := lastLocation r.fields,
                    closeReasons := if hasHdr r.fields "connection" "close" then (pushReason f.closeReasons .serverClose).1
                      else f.closeReasons },
           .resp used (some r)) := by
  obtain ⟨l, hp, _⟩ := pushReason_eq f.closeReasons .serverClose hn
  have hne : (f.holder != Holder.recvResponse) = false := by simp [hh]
  unfold stepRecvResponse
  simp only [hne, Bool.false_eq_true, if_false, hp]
  rcases callTryResponse hack f.call w with ⟨c1, e | _ | ⟨used, r⟩⟩
  · rfl
  · rfl
  · dsimp only
    split
    · rfl
    · split <;> rfl

theorem holder_of_canProceed_sendBody {f : Flow} {b : Bool} (hs : f.st = .sendBody) (hc : f.canProceed = .ok b) :
    f.holder = .withBody := by
  cases hh : f.holder <;> simp [Flow.canProceed, hs, hh] at hc ⊢

theorem proceed_not_ready (hack : Bool) {f : Flow} (hc : f.canProceed = .ok false) :
    f.step hack .proceed = (f, .none) := by
  cases hs : f.st with
  | sendRequest =>
    rw [flow_step_sendRequest hs]
    simp only [stepSendRequest, hc]
  | sendBody =>
    rw [flow_step_sendBody hs]
    simp only [stepSendBody, holder_of_canProceed_sendBody hs hc, hc, bne_self_eq_false, Bool.false_eq_true, if_false]
  | recvResponse =>
    rw [flow_step_recvResponse hs]
    simp only [stepRecvResponse, hc]
  | recvBody =>
    rw [flow_step_recvBody hs]
    simp only [stepRecvBody, hc]
  | _ => simp [Flow.canProceed, hs] at hc

theorem proceed_query_fault (hack : Bool) {f : Flow} {e : Fault} (hc : f.canProceed = .error e) :
    f.step hack .proceed = (f, .fault e) := by
  cases hs : f.st with
  | sendRequest =>
    rw [flow_step_sendRequest hs]
    simp only [stepSendRequest, hc]
  | sendBody =>
    -- the step looks at the holder before it asks, and then answers what the query would
    rw [flow_step_sendBody hs]
    cases hh : f.holder
    case withBody => simp [Flow.canProceed, hs, hh] at hc
    all_goals
      obtain rfl : Fault.panic "holder.rs as_with_body unreachable" = e := by simpa [Flow.canProceed, hs, hh] using hc
      simp [stepSendBody, hh]
  | recvResponse =>
    rw [flow_step_recvResponse hs]
    simp only [stepRecvResponse, hc]
  | recvBody =>
    rw [flow_step_recvBody hs]
    simp only [stepRecvBody, hc]
  | _ => simp [Flow.canProceed, hs] at hc

/-- the gate in front of every edge: unless the readiness query answers true, `proceed` keeps the flow and names no
    state -/
theorem proceed_gate (hack : Bool) (f : Flow) :
    f.canProceed = .ok true ∨ ∃ r, f.step hack .proceed = (f, r) ∧ ∀ s, r ≠ .state s := by
  cases hc : f.canProceed with
  | error e => exact .inr ⟨_, proceed_query_fault hack hc, nofun⟩
  | ok b =>
    cases b with
    | false => exact .inr ⟨_, proceed_not_ready hack hc, nofun⟩
    | true => exact .inl rfl

theorem step_st_of_ne_proceed (hack : Bool) (f : Flow) (op : Op) (h : op ≠ .proceed) :
    (f.step hack op).1.st = f.st := by
  -- every branch but `proceed` returns `f` with components other than `st` replaced
  unfold Flow.step
  split
  · unfold stepPrepare
    cases op <;> first | rfl | exact absurd rfl h | (dsimp only; (repeat' split) <;> rfl)
  · unfold stepSendRequest
    cases op <;> first | rfl | exact absurd rfl h | (dsimp only; (repeat' split) <;> rfl)
  · unfold stepAwait100 refuse100
    cases op <;> first | rfl | exact absurd rfl h | (dsimp only; (repeat' split) <;> rfl)
  · unfold stepSendBody
    cases op <;> first | exact absurd rfl h | (dsimp only; (repeat' split) <;> rfl)
  · unfold stepRecvResponse
    cases op <;> first | rfl | exact absurd rfl h | (dsimp only; (repeat' split) <;> rfl)
  · unfold stepRecvBody
    cases op <;> first | rfl | exact absurd rfl h | (dsimp only; (repeat' split) <;> rfl)
  · cases op <;> first | rfl | exact absurd rfl h
  · cases op <;> rfl

theorem enterSendBody_of_analyzed {f : Flow} (h : f.call.analyzed = true) :
    enterSendBody f = ({ f with st := .sendBody }, .state .sendBody) := by
  rw [enterSendBody, analyzeRequest_of_analyzed h]

theorem enterSendBody_flow (f : Flow) :
    (enterSendBody f).1 = { f with call := f.call.analyzeRequest.1, st := .sendBody } := by
  unfold enterSendBody
  split
  all_goals
    rename_i hq
    rw [hq]

theorem enterSendBody_state {f : Flow} {s : FState} (h : (enterSendBody f).2 = .state s) : s = .sendBody := by
  unfold enterSendBody at h
  split at h
  · cases h
  · exact (Res.state.inj h).symm

/-- the state moves along the graph also when request analysis fails on the edge into the body state -/
theorem proceed_cases (hack : Bool) (f : Flow) :
    ((f.step hack .proceed).1.st = f.st ∨ (f.step hack .proceed).1.st = graphSpec f) ∧
    ∀ s, (f.step hack .proceed).2 = .state s → s = graphSpec f := by
  rcases proceed_gate hack f with hc | ⟨r, e, hr⟩
  case inr =>
    rw [e]
    exact ⟨.inl rfl, fun s h => absurd h (hr s)⟩
  -- an edge taken: the flow stands in the state the answer names
  have edge : ∀ {g : Flow} {a o : FState}, g.st = o → (g.st = a ∨ g.st = o) ∧ ∀ s, Res.state o = .state s → s = o :=
    fun h => ⟨.inr h, fun _ e => (Res.state.inj e).symm⟩
  unfold graphSpec
  cases hs : f.st with
  | prepare =>
    rw [flow_step_prepare hs]
    exact edge rfl
  | sendRequest =>
    rw [flow_step_sendRequest hs, stepSendRequest_proceed hc]
    dsimp only
    split
    · split
      · exact edge rfl
      · exact ⟨.inr (by rw [enterSendBody_flow]), fun _ => enterSendBody_state⟩
    · split
      · split
        · exact edge rfl
        · exact ⟨.inl hs, nofun⟩
      · exact ⟨.inl hs, nofun⟩
  | await100 =>
    rw [flow_step_await100 hs, stepAwait100_proceed]
    dsimp only
    split
    · exact ⟨.inr (by rw [enterSendBody_flow]), fun _ => enterSendBody_state⟩
    · split
      · exact edge rfl
      · exact ⟨.inl hs, nofun⟩
  | sendBody =>
    rw [flow_step_sendBody hs, stepSendBody_proceed (holder_of_canProceed_sendBody hs hc) hc]
    exact edge rfl
  | recvResponse =>
    rw [flow_step_recvResponse hs]
    simp only [stepRecvResponse, hc]
    split
    · split
      · -- the list of close reasons may be full
        split
        · exact ⟨.inl hs, nofun⟩
        · exact edge rfl
      · exact edge rfl
    · exact edge rfl
  | recvBody =>
    rw [flow_step_recvBody hs, stepRecvBody_proceed hc]
    exact edge rfl
  | redirect =>
    rw [flow_step_redirect hs]
    exact edge rfl
  | cleanup =>
    rw [flow_step_cleanup hs]
    exact ⟨.inl hs, nofun⟩

theorem stepPrepare_reasons (f : Flow) (op : Op) : (stepPrepare f op).1.closeReasons = f.closeReasons := by
  unfold stepPrepare
  cases op <;> first | rfl | (dsimp only; (repeat' split) <;> rfl)

theorem stepSendRequest_reasons (f : Flow) (op : Op) : (stepSendRequest f op).1.closeReasons = f.closeReasons := by
  unfold stepSendRequest
  cases op <;> first | rfl | (dsimp only; (repeat' split) <;> first | rfl | rw [enterSendBody_flow])

theorem stepSendBody_reasons (f : Flow) (op : Op) : (stepSendBody f op).1.closeReasons = f.closeReasons := by
  unfold stepSendBody
  cases op <;> (dsimp only; (repeat' split) <;> rfl)

theorem stepRecvBody_reasons (f : Flow) (op : Op) : (stepRecvBody f op).1.closeReasons = f.closeReasons := by
  unfold stepRecvBody
  cases op <;> first | rfl | (dsimp only; (repeat' split) <;> rfl)

theorem stepRedirect_reasons (f : Flow) (op : Op) : (stepRedirect f op).1.closeReasons = f.closeReasons := by
  cases op <;> rfl

theorem stepCleanup_reasons (f : Flow) (op : Op) : (stepCleanup f op).1.closeReasons = f.closeReasons := by
  cases op <;> rfl

theorem step_reasons_quiet (hack : Bool) (f : Flow) (op : Op) (h1 : f.st = .await100 → ∀ w, op ≠ .read100 w)
    (h2 : f.st = .recvResponse → (∀ w, op ≠ .resp w) ∧ op ≠ .proceed) :
    (f.step hack op).1.closeReasons = f.closeReasons := by
  cases hs : f.st with
  | prepare => rw [flow_step_prepare hs, stepPrepare_reasons]
  | sendRequest => rw [flow_step_sendRequest hs, stepSendRequest_reasons]
  | await100 =>
    rw [flow_step_await100 hs]
    unfold stepAwait100
    cases op <;> try rfl
    case read100 w => exact absurd rfl (h1 hs w)
    case proceed =>
      dsimp only
      (repeat' split) <;> first | rfl | rw [enterSendBody_flow]
  | sendBody => rw [flow_step_sendBody hs, stepSendBody_reasons]
  | recvResponse =>
    rw [flow_step_recvResponse hs]
    cases op <;> try rfl
    case resp w => exact absurd rfl ((h2 hs).1 w)
    case proceed => exact absurd rfl (h2 hs).2
  | recvBody => rw [flow_step_recvBody hs, stepRecvBody_reasons]
  | redirect => rw [flow_step_redirect hs, stepRedirect_reasons]
  | cleanup => rw [flow_step_cleanup hs, stepCleanup_reasons]
