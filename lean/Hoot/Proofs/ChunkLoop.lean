import Hoot.Model.Chunk2

/-! The two loops of the dechunker. The Rust loops are unbounded and the fuel is the model's: the two `_rule`
    theorems show once that the fuel passed is enough, so that a property of a loop's result is proved from what
    one round does. -/

theorem findCrlf_bound {src : Bytes} {i : Nat} (h : findCrlf src = some i) : i + 2 ≤ src.length := by
  fun_induction findCrlf src generalizing i with
  | case2 =>
    cases h
    simp
  | case5 c rest _ ih =>
    obtain ⟨j, hj, rfl⟩ := Option.map_eq_some_iff.mp h
    exact Nat.succ_le_succ (ih hj)
  | _ => cases h

theorem parseSizeField_err {b : Bytes} {e : Err} (h : parseSizeField b = .error e) : e ≠ .panic := by
  unfold parseSizeField at h
  split at h
  · cases h
    simp
  · split at h <;> cases h
    simp

theorem readSize2_cases (src : Bytes) :
    match readSize2 src with
    | .error e => e ≠ .panic
    | .ok none => True
    | .ok (some (st', n)) => n ≤ src.length ∧ 0 < n ∧ st' ≠ .trailer := by
  unfold readSize2
  cases hf : findCrlf src with
  | none => trivial
  | some i =>
    have hb := findCrlf_bound hf
    by_cases hi : i > 20
    · simp [hi]
    · simp only [hi, if_false]
      cases hp : parseSizeField _ with
      | error e => exact parseSizeField_err hp
      | ok len =>
        refine ⟨hb, Nat.succ_pos _, ?_⟩
        split <;> simp

/-- the loop invariant on arbitrary bytes: the transient trailer state always sees its line end -/
def TrOk (st : Dechunker) (src : Bytes) : Prop := st = .trailer → ∃ i, findCrlf src = some i ∧ 0 < i

/-- what a round that does not fail gives on arbitrary bytes -/
structure StepOk (st : Dechunker) (src : Bytes) (cap : Nat) (more : Bool) (st' : Dechunker) (n : Nat) (out : Bytes) :
    Prop where
  le : n ≤ src.length
  room : out.length ≤ cap
  sub : out.Sublist (src.take n)
  prog : more = true → 0 < n ∨ (st = .ending ∧ st' = .trailer)
  tr_more : TrOk st src → more = true → TrOk st' (src.drop n)
  tr_stop : TrOk st src → more = false → st' ≠ .trailer

theorem StepOk.idle {st : Dechunker} {src : Bytes} {cap : Nat} (h : TrOk st src → st ≠ .trailer) :
    StepOk st src cap false st 0 [] :=
  { le := Nat.zero_le _, room := Nat.zero_le _, sub := List.nil_sublist _, prog := nofun,
    tr_more := fun _ => nofun, tr_stop := fun hq _ => h hq }

theorem stepOnce2_ok {st st' : Dechunker} {src out : Bytes} {cap n : Nat} {more : Bool}
    (h : stepOnce2 st src cap = .ok (more, st', n, out)) : StepOk st src cap more st' n out := by
  cases st with
  | size =>
    simp only [stepOnce2] at h
    have hr := readSize2_cases src
    generalize readSize2 src = q at hr h
    rcases q with e | _ | ⟨st₁, n₁⟩
    · cases h
    · cases h
      exact .idle fun _ => nofun
    · cases h
      exact { le := hr.1, room := Nat.zero_le _, sub := List.nil_sublist _, prog := fun _ => .inl hr.2.1,
              tr_more := fun _ _ ht => absurd ht hr.2.2, tr_stop := fun _ => nofun }
  | chunk left =>
    cases h
    exact { le := Nat.le_trans (Nat.min_le_left _ _) (Nat.min_le_left _ _)
            room := by simp; omega
            sub := List.Sublist.refl _
            prog := fun h => .inl (by simpa using h)
            tr_more := fun _ _ ht => by split at ht <;> cases ht
            tr_stop := fun _ _ => by split <;> nofun }
  | crlf =>
    simp only [stepOnce2, stepOnce] at h
    split at h
    · cases h
      exact .idle fun _ => nofun
    · next i hf =>
      have hb := findCrlf_bound hf
      split at h
      · cases h
      · cases h
        exact { le := by omega, room := Nat.zero_le _, sub := List.nil_sublist _, prog := nofun,
                tr_more := fun _ => nofun, tr_stop := fun _ _ => nofun }
  | ending =>
    simp only [stepOnce2, stepOnce] at h
    split at h
    · cases h
      exact .idle fun _ => nofun
    · next i hf =>
      have hb := findCrlf_bound hf
      split at h
      · cases h
        exact { le := by omega, room := Nat.zero_le _, sub := List.nil_sublist _, prog := fun _ => .inl (by omega),
                tr_more := fun _ _ => nofun, tr_stop := fun _ => nofun }
      · cases h
        -- the trailer state is entered without consuming: it sees the line end found here
        exact { le := Nat.zero_le _, room := Nat.zero_le _, sub := List.nil_sublist _, prog := fun _ => .inr ⟨rfl, rfl⟩,
                tr_more := fun _ _ _ => ⟨i, by simpa using hf, by omega⟩, tr_stop := fun _ => nofun }
  | trailer =>
    simp only [stepOnce2, stepOnce] at h
    split at h
    · next hf =>
      cases h
      refine .idle fun hq => ?_
      obtain ⟨i, hi, _⟩ := hq rfl
      simp [hf] at hi
    · next i hf =>
      have hb := findCrlf_bound hf
      split at h
      · cases h
      · cases h
        exact { le := hb, room := Nat.zero_le _, sub := List.nil_sublist _, prog := fun _ => .inl (by omega),
                tr_more := fun _ _ => nofun, tr_stop := fun _ => nofun }
  | ended =>
    cases h
    exact .idle fun _ => nofun

/-- `e ≠ .panic` in state `.trailer`: the `assert!(i > 0)` of chunk.rs does not fire -/
theorem stepOnce2_err {st : Dechunker} {src : Bytes} {cap : Nat} {e : Err} (h : stepOnce2 st src cap = .error e)
    (hq : TrOk st src) : st ≠ .trailer ∧ e ≠ .panic := by
  cases st with
  | size =>
    simp only [stepOnce2] at h
    have hr := readSize2_cases src
    generalize readSize2 src = q at hr h
    rcases q with e' | _ | ⟨st₁, n₁⟩
    · cases h
      exact ⟨nofun, hr⟩
    · cases h
    · cases h
  | crlf =>
    simp only [stepOnce2, stepOnce] at h
    split at h
    · cases h
    · split at h
      · cases h
        exact ⟨nofun, nofun⟩
      · cases h
  | trailer =>
    obtain ⟨i, hi, hpos⟩ := hq rfl
    simp [stepOnce2, stepOnce, hi, Nat.ne_of_gt hpos, pure, Except.pure] at h
  | chunk left => cases h
  | ending =>
    simp only [stepOnce2, stepOnce] at h
    split at h
    · cases h
    · split at h <;> cases h
  | ended => cases h

/-- every round but the one that recognises a trailer line consumes, and that one is followed by one that does -/
def fuelNeedS (st : Dechunker) (len : Nat) : Nat := 2 * len + (if st = .trailer then 1 else 2)

/-- `readChunkedS` passes `2 * src.length + 4` to the inner loop: enough in every state -/
theorem fuelNeedS_le (st : Dechunker) (len : Nat) : fuelNeedS st len ≤ 2 * len + 4 := by
  unfold fuelNeedS
  split <;> omega

theorem stepOnce2_more {st st' : Dechunker} {src out : Bytes} {cap n : Nat}
    (h : stepOnce2 st src cap = .ok (true, st', n, out)) :
    fuelNeedS st' (src.drop n).length < fuelNeedS st src.length := by
  have hn := (stepOnce2_ok h).le
  unfold fuelNeedS
  rw [List.length_drop]
  rcases (stepOnce2_ok h).prog rfl with hpos | ⟨he, ht⟩
  · split <;> split <;> omega
  · simp [he, ht]
    omega

/-- the match both loops end with (the model spells it inline) -/
def glue (n : Nat) (out : Bytes) : Dechunker × Except Err (Nat × Bytes) → Dechunker × Except Err (Nat × Bytes)
  | (st, .ok (n', out')) => (st, .ok (n + n', out ++ out'))
  | (st, .error e) => (st, .error e)

theorem parseInputS_rule {P : Dechunker → Bytes → Nat → Dechunker × Except Err (Nat × Bytes) → Prop}
    (err : ∀ {st src cap e}, stepOnce2 st src cap = .error e → P st src cap (st, .error e))
    (stop : ∀ {st src cap st' n out}, stepOnce2 st src cap = .ok (false, st', n, out) → P st src cap (st', .ok (n, out)))
    (more : ∀ {st src cap st' n out res}, stepOnce2 st src cap = .ok (true, st', n, out) →
      P st' (src.drop n) (cap - out.length) res → P st src cap (glue n out res)) :
    ∀ (fuel : Nat) (st : Dechunker) (src : Bytes) (cap : Nat), fuelNeedS st src.length ≤ fuel →
      P st src cap (parseInputS fuel st src cap) := by
  intro fuel
  induction fuel with
  | zero =>
    intro st src cap hf
    unfold fuelNeedS at hf
    split at hf <;> omega
  | succ fuel ih =>
    intro st src cap hf
    rw [parseInputS]
    cases hs : stepOnce2 st src cap with
    | error e => exact err hs
    | ok v =>
      obtain ⟨_ | _, st', n, out⟩ := v
      · exact stop hs
      · have := stepOnce2_more hs
        exact more hs (ih st' (src.drop n) (cap - out.length) (by omega))

theorem parseInputS_le {fuel : Nat} {st st' : Dechunker} {src out : Bytes} {cap n : Nat}
    (hf : fuelNeedS st src.length ≤ fuel) (h : parseInputS fuel st src cap = (st', .ok (n, out))) :
    n ≤ src.length := by
  refine parseInputS_rule (P := fun _ src _ res => ∀ st' n out, res = (st', .ok (n, out)) → n ≤ src.length)
    ?_ ?_ ?_ fuel st src cap hf st' n out h
  · intro st src cap e _ st' n out h
    cases h
  · intro st src cap st₁ n₁ o₁ hs st' n out h
    cases h
    exact (stepOnce2_ok hs).le
  · intro st src cap st₁ n₁ o₁ res hs ih st' n out h
    have hn := (stepOnce2_ok hs).le
    obtain ⟨st₂, _ | ⟨n₂, o₂⟩⟩ := res
    · cases h
    · cases h
      have := ih _ _ _ rfl
      rw [List.length_drop] at this
      omega

theorem readChunkedS_rule {P : Dechunker → Bytes → Nat → Dechunker × Except Err (Nat × Bytes) → Prop} (stop : Bool)
    (err : ∀ {st src cap st' e}, parseInputS (2 * src.length + 4) st src cap = (st', .error e) →
      P st src cap (st', .error e))
    (last : ∀ {st src cap st' i o}, parseInputS (2 * src.length + 4) st src cap = (st', .ok (i, o)) →
      P st src cap (st', .ok (i, o)))
    (more : ∀ {st src cap st' i o res}, parseInputS (2 * src.length + 4) st src cap = (st', .ok (i, o)) →
      0 < i → (stop = true → st' ≠ .size) →
      P st' (src.drop i) (cap - o.length) res → P st src cap (glue i o res)) :
    ∀ (fuel : Nat) (st : Dechunker) (src : Bytes) (cap : Nat), src.length + 1 ≤ fuel →
      P st src cap (readChunkedS fuel st src cap stop) := by
  intro fuel
  induction fuel with
  | zero =>
    intro st src cap hf
    omega
  | succ fuel ih =>
    intro st src cap hf
    rw [readChunkedS]
    rcases hp : parseInputS (2 * src.length + 4) st src cap with ⟨st', _ | ⟨i, o⟩⟩
    · exact err hp
    · have hi := parseInputS_le (fuelNeedS_le _ _) hp
      simp only []
      split
      · exact last hp
      · split
        · exact last hp
        · split
          · exact last hp
          · rename_i hbreak _ hstop
            simp at hbreak
            exact more hp (by omega) (by simpa using hstop)
              (ih st' (src.drop i) (cap - o.length) (by rw [List.length_drop]; omega))
