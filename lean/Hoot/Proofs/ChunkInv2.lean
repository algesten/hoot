import Hoot.Spec.Chunked
import Hoot.Proofs.ChunkLoop

/-! C07: the dechunker on windows of a valid coding. `Rem.step` tells one round of the inner loop on grammar
    positions and `stepOnce2_sim` is the only place where bytes are looked at; `Adv` says how far a round, a
    loop or a schedule of reads has come. -/

namespace V2

theorem payloadOf_cons (c : Chunk) (cs : List Chunk) : payloadOf (c :: cs) = c.data ++ payloadOf cs := by
  simp [payloadOf]

theorem SizeLine.enc_length (l : SizeLine) : l.enc.length = l.digits.length + l.ext.length + 2 := by
  simp [SizeLine.enc]
  omega

theorem Rem.enc_atSize_cons (c : Chunk) (cs : List Chunk) (last : SizeLine) (trs : List Bytes) :
    (Rem.atSize (c :: cs) last trs).enc = c.line.enc ++ (Rem.inChunk c.data cs last trs).enc := by
  simp [Rem.enc, encTail, encChunks, Chunk.enc]

theorem Rem.enc_atSize_nil (last : SizeLine) (trs : List Bytes) :
    (Rem.atSize [] last trs).enc = last.enc ++ (Rem.atEnding trs).enc := by
  simp [Rem.enc, encTail, encChunks]

theorem Rem.enc_atEnding_cons (t : Bytes) (ts : List Bytes) :
    (Rem.atEnding (t :: ts)).enc = (Rem.atTrailer t ts).enc := by
  simp [Rem.enc, encTrailers]
-- for `atCrlf`, `atTrailer` and `atEnding []` the corresponding equation holds by `rfl`

theorem rem_state_ended_iff (r : Rem) (hr : r.atRest) : r.state = .ended ↔ r.enc = [] := by
  cases r <;> simp [Rem.state, Rem.enc, encTail, SizeLine.enc, Rem.atRest] at hr ⊢

theorem winOk_of_atRest (r : Rem) (h : r.atRest) (m : Nat) : r.winOk m := by
  cases r <;> simp [Rem.winOk, Rem.atRest] at h ⊢

theorem findCrlf_window (a : Bytes) (h : ∀ x ∈ a, x ≠ CR) (e rest tail : Bytes) (m : Nat)
    (he : e = a ++ ([CR, LF] ++ rest)) :
    findCrlf ((e ++ tail).take m) = if a.length + 2 ≤ m then some a.length else none := by
  subst he
  simpa using findCrlf_take a (rest ++ tail) h m

theorem firstIdx_append (c : UInt8) (a b : Bytes) (h : ∀ x ∈ a, x ≠ c) :
    firstIdx c (a ++ b) = (firstIdx c b).map (· + a.length) := by
  induction a with
  | nil => simp
  | cons x xs ih =>
    have hx : x ≠ c := h x (by simp)
    simp [firstIdx, hx, ih (fun y hy => h y (by simp [hy])), Option.map_map, Function.comp_def, Nat.add_assoc]

theorem readSize2_line (l : SizeLine) (hl : l.wf) (rest : Bytes) (m : Nat) :
    readSize2 ((l.enc ++ rest).take m) =
      if l.enc.length ≤ m then .ok (some (if l.val = 0 then .ending else .chunk l.val, l.enc.length))
      else .ok none := by
  obtain ⟨hne, hparse, hdig, hext, hextcr, hlen⟩ := hl
  have hnocr : ∀ x ∈ l.digits ++ l.ext, x ≠ CR :=
    fun x hx => (List.mem_append.mp hx).elim (fun h => (hdig x h).1) (hextcr x)
  have henc : l.enc ++ rest = l.digits ++ (l.ext ++ ([CR, LF] ++ rest)) := by simp [SizeLine.enc]
  unfold readSize2
  rw [findCrlf_window (l.digits ++ l.ext) hnocr l.enc [] rest m (by simp [SizeLine.enc]), SizeLine.enc_length,
    List.length_append]
  by_cases hm : l.digits.length + l.ext.length + 2 ≤ m
  · have h20 : ¬ (l.digits.length + l.ext.length > 20) := by omega
    simp only [hm, h20, if_true, if_false]
    -- both windows keep the digits and at least one byte behind them: the `;` of an extension, else the CR
    have hend : min ((firstIdx 59 (((l.enc ++ rest).take m).take 100)).getD 21)
        (l.digits.length + l.ext.length) = l.digits.length := by
      rw [List.take_take, henc, List.take_append, List.take_of_length_le (by omega),
        firstIdx_append 59 l.digits _ (fun x hx => (hdig x hx).2)]
      rcases hext with he | he
      · cases firstIdx 59 _ <;> simp [he] <;> omega
      · obtain ⟨e, he'⟩ := List.head?_eq_some_iff.mp he
        obtain ⟨j, hj⟩ : ∃ j, min 100 m - l.digits.length = j + 1 := ⟨min 100 m - l.digits.length - 1, by omega⟩
        rw [he', hj]
        simp [firstIdx]
    have htk : ((l.enc ++ rest).take m).take l.digits.length = l.digits := by
      rw [List.take_take, Nat.min_eq_left (by omega), henc, List.take_left']
      rfl
    rw [hend, htk, hparse]
  · simp [hm]

structure Stepped where
  more : Bool
  pos : Rem
  used : Nat
  out : Bytes

/-- `m` bytes of the stream in view, `cap` bytes of output space; a line, a CRLF or a trailer is passed only
    when all of it is in view -/
def Rem.step (m cap : Nat) : Rem → Stepped
  | .atSize (c :: cs) last trs =>
    if c.line.enc.length ≤ m then ⟨true, .inChunk c.data cs last trs, c.line.enc.length, []⟩
    else ⟨false, .atSize (c :: cs) last trs, 0, []⟩
  | .atSize [] last trs =>
    if last.enc.length ≤ m then ⟨true, .atEnding trs, last.enc.length, []⟩
    else ⟨false, .atSize [] last trs, 0, []⟩
  | .inChunk d cs last trs =>
    if d.length ≤ min m cap then ⟨decide (d.length > 0), .atCrlf cs last trs, d.length, d⟩
    else ⟨decide (min m cap > 0), .inChunk (d.drop (min m cap)) cs last trs, min m cap, d.take (min m cap)⟩
  | .atCrlf cs last trs =>
    if 2 ≤ m then ⟨false, .atSize cs last trs, 2, []⟩ else ⟨false, .atCrlf cs last trs, 0, []⟩
  | .atEnding [] => if 2 ≤ m then ⟨true, .done, 2, []⟩ else ⟨false, .atEnding [], 0, []⟩
  | .atEnding (t :: ts) =>
    if t.length + 2 ≤ m then ⟨true, .atTrailer t ts, 0, []⟩ else ⟨false, .atEnding (t :: ts), 0, []⟩
  | .atTrailer t ts => ⟨true, .atEnding ts, t.length + 2, []⟩
  | .done => ⟨false, .done, 0, []⟩

theorem stepOnce2_sim (r : Rem) (hr : r.wf) (tail : Bytes) (m cap : Nat) (hw : r.winOk m) :
    stepOnce2 r.state ((r.enc ++ tail).take m) cap =
      .ok ((r.step m cap).more, (r.step m cap).pos.state, (r.step m cap).used, (r.step m cap).out) := by
  cases r with
  | done => simp [Rem.state, Rem.step, stepOnce2, stepOnce, pure, Except.pure]
  | atCrlf cs last trs =>
    simp only [Rem.state, Rem.step, stepOnce2, stepOnce,
      findCrlf_window [] (by simp) (Rem.atCrlf cs last trs).enc (Rem.atSize cs last trs).enc tail m rfl]
    by_cases hm : 2 ≤ m <;> simp [hm, pure, Except.pure]
  | atTrailer t ts =>
    have hm : t.length + 2 ≤ m := hw
    simp only [Rem.state, Rem.step, stepOnce2, stepOnce,
      findCrlf_window t hr.1.2 (Rem.atTrailer t ts).enc (Rem.atEnding ts).enc tail m rfl]
    simp [hm, hr.1.1, pure, Except.pure]
  | atEnding trs =>
    cases trs with
    | nil =>
      simp only [Rem.state, Rem.step, stepOnce2, stepOnce, findCrlf_window [] (by simp) (Rem.atEnding []).enc [] tail m rfl]
      by_cases hm : 2 ≤ m <;> simp [hm, pure, Except.pure]
    | cons t ts =>
      have ht : trailerWf t := hr t (by simp)
      simp only [Rem.state, Rem.step, stepOnce2, stepOnce,
        findCrlf_window t ht.2 (Rem.atEnding (t :: ts)).enc (Rem.atEnding ts).enc tail m (Rem.enc_atEnding_cons t ts)]
      by_cases hm : t.length + 2 ≤ m <;> simp [hm, ht.1, pure, Except.pure]
  | atSize cs last trs =>
    obtain ⟨hcs, hlast, hzero, htrs⟩ := hr
    cases cs with
    | nil =>
      simp only [Rem.state, Rem.step, stepOnce2, Rem.enc_atSize_nil, List.append_assoc, readSize2_line last hlast]
      by_cases hm : last.enc.length ≤ m <;> simp [hm, hzero, bind, Except.bind, pure, Except.pure]
    | cons c cs =>
      obtain ⟨hcl, hcv, hcpos⟩ := hcs c (by simp)
      have hne : c.data ≠ [] := List.length_pos_iff.mp hcpos
      simp only [Rem.state, Rem.step, stepOnce2, Rem.enc_atSize_cons, List.append_assoc, readSize2_line c.line hcl]
      by_cases hm : c.line.enc.length ≤ m
      · simp [hm, hne, hcv, bind, Except.bind, pure, Except.pure]
      · simp [hm, bind, Except.bind, pure, Except.pure]
  | inChunk d cs last trs =>
    -- what follows `d` in the window never limits the copy
    have hn : min (min ((d ++ ([CR, LF] ++ encTail cs last trs) ++ tail).take m).length cap) d.length =
        min (min m cap) d.length := by
      simp only [List.length_take, List.length_append]
      omega
    simp only [Rem.state, Rem.enc, Rem.step, stepOnce2, stepOnce, hn, pure, Except.pure]
    by_cases hfit : d.length ≤ min m cap
    · have hm : d.length ≤ m := by omega
      rw [Nat.min_eq_right hfit, List.take_take, Nat.min_eq_left hm, List.append_assoc, List.take_left' rfl]
      simp [hfit]
    · have hk : min m cap ≤ d.length := by omega
      have : d.length - min m cap ≠ 0 := by omega
      rw [Nat.min_eq_left hk, List.take_take, Nat.min_eq_left (Nat.min_le_left m cap), List.append_assoc,
        List.take_append_of_le_length hk]
      simp [hfit, this]

structure Adv (r : Rem) (n : Nat) (out : Bytes) (r' : Rem) : Prop where
  wf : r'.wf
  le : n ≤ r.enc.length
  enc : r.enc.drop n = r'.enc
  payload : r.payload = out ++ r'.payload

theorem Adv.refl {r : Rem} (hr : r.wf) : Adv r 0 [] r := ⟨hr, Nat.zero_le _, rfl, rfl⟩

theorem Adv.trans {r r₁ r₂ : Rem} {n₁ n₂ : Nat} {o₁ o₂ : Bytes} (h₁ : Adv r n₁ o₁ r₁) (h₂ : Adv r₁ n₂ o₂ r₂) :
    Adv r (n₁ + n₂) (o₁ ++ o₂) r₂ := by
  have hl : r₁.enc.length = r.enc.length - n₁ := by rw [← h₁.enc, List.length_drop]
  refine ⟨h₂.wf, ?_, ?_, ?_⟩
  · have := h₁.le
    have := h₂.le
    omega
  · rw [← List.drop_drop, h₁.enc, h₂.enc]
  · rw [h₁.payload, h₂.payload, List.append_assoc]

theorem Adv.skip {r r' : Rem} (a : Bytes) (hwf : r'.wf) (he : r.enc = a ++ r'.enc) (hp : r.payload = r'.payload) :
    Adv r a.length [] r' :=
  ⟨hwf, by simp [he], by simp [he], hp⟩

section
variable {r r' : Rem} {n : Nat} {out : Bytes} (h : Adv r n out r')
include h

theorem Adv.drop (tail : Bytes) : (r.enc ++ tail).drop n = r'.enc ++ tail := by
  rw [List.drop_append_of_le_length h.le, h.enc]

theorem Adv.window (tail : Bytes) (m : Nat) : ((r.enc ++ tail).take m).drop n = (r'.enc ++ tail).take (m - n) := by
  rw [List.drop_take, h.drop]

theorem Adv.ended_iff (hrest : r'.atRest) : r'.state = .ended ↔ n = r.enc.length := by
  rw [rem_state_ended_iff r' hrest, ← h.enc, List.drop_eq_nil_iff]
  have := h.le
  omega

theorem Adv.of_ended (he : r'.state = .ended) (tail : Bytes) :
    out = r.payload ∧ (r.enc ++ tail).drop n = tail := by
  cases r' <;> simp [Rem.state] at he
  exact ⟨by simpa [Rem.payload] using h.payload.symm, by simpa [Rem.enc] using h.drop tail⟩

end

theorem step_adv {r : Rem} (hr : r.wf) (m cap : Nat) :
    Adv r (r.step m cap).used (r.step m cap).out (r.step m cap).pos := by
  match r with
  | .atSize (c :: cs) last trs =>
    simp only [Rem.step]
    split
    · obtain ⟨hc, hcs⟩ := List.forall_mem_cons.mp hr.1
      exact Adv.skip c.line.enc ⟨hc.2.2, hcs, hr.2⟩ (Rem.enc_atSize_cons c cs last trs)
        (by simp [Rem.payload, payloadOf_cons])
    · exact Adv.refl hr
  | .atSize [] last trs =>
    simp only [Rem.step]
    split
    · exact Adv.skip last.enc hr.2.2.2 (Rem.enc_atSize_nil last trs) (by simp [Rem.payload, payloadOf])
    · exact Adv.refl hr
  | .inChunk d cs last trs =>
    simp only [Rem.step]
    split
    · exact { wf := hr.2, le := by simp [Rem.enc], enc := by simp [Rem.enc], payload := by simp [Rem.payload] }
    · next hfit =>
      have hk : min m cap ≤ d.length := by omega
      exact { wf := ⟨by simp; omega, hr.2⟩
              le := by simp [Rem.enc]; omega
              enc := List.drop_append_of_le_length hk
              payload := by simp only [Rem.payload]; rw [← List.append_assoc, List.take_append_drop] }
  | .atCrlf cs last trs =>
    simp only [Rem.step]
    split
    · exact Adv.skip [CR, LF] hr rfl rfl
    · exact Adv.refl hr
  | .atEnding [] =>
    simp only [Rem.step]
    split
    · exact Adv.skip [CR, LF] trivial rfl rfl
    · exact Adv.refl hr
  | .atEnding (t :: ts) =>
    simp only [Rem.step]
    split
    · exact Adv.skip [] (List.forall_mem_cons.mp hr) (Rem.enc_atEnding_cons t ts) rfl
    · exact Adv.refl hr
  | .atTrailer t ts =>
    simpa [Rem.step] using
      Adv.skip (r := .atTrailer t ts) (r' := .atEnding ts) (t ++ [CR, LF]) hr.2 (by simp [Rem.enc]) rfl
  | .done => exact Adv.refl hr

theorem step_more (r : Rem) (m cap : Nat) (h : (r.step m cap).more = true) :
    (r.step m cap).pos.winOk (m - (r.step m cap).used) ∧
      r.curChunk = (r.step m cap).out ++ (r.step m cap).pos.curChunk := by
  fun_cases Rem.step m cap r <;> simp only [Rem.step, *, if_true, if_false] at h ⊢
  all_goals simp [Rem.curChunk, Rem.winOk, *] at h ⊢

theorem step_stop (r : Rem) (m cap : Nat) (h : (r.step m cap).more = false) :
    (r.step m cap).pos.atRest ∧ r.state ≠ .trailer ∧ (r.step m cap).out <+: r.curChunk ∧
      ((r.step m cap).pos.state = .size ∨ r.curChunk = (r.step m cap).out ++ (r.step m cap).pos.curChunk) := by
  fun_cases Rem.step m cap r <;> simp only [Rem.step, *, if_true, if_false] at h ⊢
  all_goals simp [Rem.state, Rem.curChunk, Rem.atRest, List.take_prefix] at h ⊢

theorem step_live (r : Rem) (m cap : Nat) (hr : r.wf) (h : (r.step m cap).more = false) (hm : r.enc.length ≤ m)
    (hcap : 1 ≤ cap ∨ r.payload = []) (hne : r.state ≠ .ended) : 0 < (r.step m cap).used := by
  -- with all of the coding in view so is the item at `r`: the round passes it, and that goes on (against `h`) except
  -- behind a chunk's data, where two bytes are used, and in the copy
  match r with
  | .atSize (c :: cs) last trs =>
    have : c.line.enc.length ≤ m := by
      rw [Rem.enc_atSize_cons, List.length_append] at hm
      omega
    simp [Rem.step, this] at h
  | .atSize [] last trs =>
    have : last.enc.length ≤ m := by
      rw [Rem.enc_atSize_nil, List.length_append] at hm
      omega
    simp [Rem.step, this] at h
  | .inChunk d cs last trs =>
    have hd : 0 < d.length := hr.1
    have hc : 1 ≤ cap := hcap.resolve_right fun hp => by simp [Rem.payload, List.length_pos_iff.mp hd] at hp
    simp [Rem.enc] at hm
    simp only [Rem.step]
    split
    · exact hd
    · show 0 < min m cap
      omega
  | .atCrlf cs last trs =>
    have : 2 ≤ m := by
      simp [Rem.enc] at hm
      omega
    simp [Rem.step, this]
  | .atEnding [] =>
    have : 2 ≤ m := by simpa [Rem.enc, encTrailers] using hm
    simp [Rem.step, this] at h
  | .atEnding (t :: ts) =>
    have : t.length + 2 ≤ m := by
      rw [Rem.enc_atEnding_cons] at hm
      simp [Rem.enc] at hm
      omega
    simp [Rem.step, this] at h
  | .atTrailer t ts => simp [Rem.step] at h
  | .done => exact absurd rfl hne

/-- `res` is a successful return at a position `r'` with `n` bytes used and `out` delivered, of which `Q` holds -/
def Returns (res : Dechunker × Except Err (Nat × Bytes)) (Q : Rem → Nat → Bytes → Prop) : Prop :=
  ∃ (r' : Rem) (n : Nat) (out : Bytes), res = (r'.state, .ok (n, out)) ∧ Q r' n out

/-- what `parse_input` returns from `r` with `m` bytes in view and `cap` bytes of room. `cur` is what boundary stopping
    rests on: the output stays inside one chunk unless the loop stopped exactly at a boundary. `trailer` and `live` are
    progress: from `.trailer` always, otherwise when all of the coding is in view and there is room or nothing left
    to deliver -/
structure InnerPost (r : Rem) (m cap : Nat) (r' : Rem) (n : Nat) (out : Bytes) : Prop where
  adv : Adv r n out r'
  used_le : n ≤ m
  out_le : out.length ≤ cap
  rest : r'.atRest
  inChunk : out <+: r.curChunk
  cur : r'.state = .size ∨ r.curChunk = out ++ r'.curChunk
  trailer : r.state = .trailer → 0 < n
  live : r.enc.length ≤ m → (1 ≤ cap ∨ r.payload = []) → r.state ≠ .ended → 0 < n

theorem parseInputS_adv (fuel : Nat) (r : Rem) (hr : r.wf) (tail : Bytes) (m cap : Nat) (hw : r.winOk m)
    (hf : fuelNeedS r.state ((r.enc ++ tail).take m).length ≤ fuel) :
    Returns (parseInputS fuel r.state ((r.enc ++ tail).take m) cap) (InnerPost r m cap) := by
  refine parseInputS_rule (P := fun st src cap res => ∀ (r : Rem) (m : Nat), r.wf → r.winOk m → st = r.state →
    src = (r.enc ++ tail).take m → Returns res (InnerPost r m cap)) ?_ ?_ ?_ fuel _ _ cap hf r m hr hw rfl rfl
  · rintro _ _ cap e he r m hr hw rfl rfl
    rw [stepOnce2_sim r hr tail m cap hw] at he
    cases he
  · rintro _ _ cap st' n out he r m hr hw rfl rfl
    -- the bounds hold of a round on any bytes
    have s := stepOnce2_ok he
    rw [stepOnce2_sim r hr tail m cap hw] at he
    simp only [Except.ok.injEq, Prod.mk.injEq] at he
    obtain ⟨hmore, rfl, rfl, rfl⟩ := he
    obtain ⟨hrest, hnt, hpre, hcur⟩ := step_stop r m cap hmore
    exact ⟨_, _, _, rfl,
      { adv := step_adv hr m cap
        used_le := Nat.le_trans s.le (List.length_take_le _ _)
        out_le := s.room
        rest := hrest
        inChunk := hpre
        cur := hcur
        trailer := fun h => absurd h hnt
        live := step_live r m cap hr hmore }⟩
  · rintro _ _ cap st' n out res he ih r m hr hw rfl rfl
    have s := stepOnce2_ok he
    rw [stepOnce2_sim r hr tail m cap hw] at he
    simp only [Except.ok.injEq, Prod.mk.injEq] at he
    obtain ⟨hmore, rfl, rfl, rfl⟩ := he
    have a := step_adv hr m cap
    obtain ⟨hwin, hcur⟩ := step_more r m cap hmore
    obtain ⟨r₂, n₂, o₂, rfl, p⟩ := ih _ _ a.wf hwin rfl (a.window tail m)
    -- a round that goes on without consuming has entered `.trailer`, and from there the loop consumes
    have hpos : 0 < (r.step m cap).used + n₂ := by
      rcases s.prog rfl with h | h
      · omega
      · have := p.trailer h.2
        omega
    have hn₁ := Nat.le_trans s.le (List.length_take_le _ _)
    have ho₁ := s.room
    have hn₂ := p.used_le
    have ho₂ := p.out_le
    exact ⟨r₂, _, _, rfl,
      { adv := a.trans p.adv
        used_le := by omega
        out_le := by simp; omega
        rest := p.rest
        inChunk := hcur ▸ (List.prefix_append_right_inj _).mpr p.inChunk
        cur := p.cur.imp id (fun h => by rw [hcur, h, List.append_assoc])
        trailer := fun _ => hpos
        live := fun _ _ _ => hpos }⟩

/-- `fuelNeedS` (ChunkLoop.lean) on the state of a position -/
def fuelNeed (r : Rem) (m : Nat) : Nat := 2 * m + (if r.state = .trailer then 1 else 2)

/-- C07 core: the inner loop (`parse_input` of chunk.rs, state-carrying) from any valid position, on any window of
    the remaining stream — possibly reaching into the next message — and any output space, with enough fuel -/
theorem parseInputS_inv (fuel : Nat) : ∀ (r : Rem), r.wf → ∀ (tail : Bytes) (m cap : Nat), r.winOk m →
    fuelNeed r m ≤ fuel →
    ∃ (r' : Rem) (n : Nat) (out : Bytes),
      parseInputS fuel r.state ((r.enc ++ tail).take m) cap = (r'.state, .ok (n, out)) ∧
      r'.wf ∧ n ≤ m ∧ out.length ≤ cap ∧ r.enc.drop n = r'.enc ∧ n ≤ r.enc.length ∧
      r.payload = out ++ r'.payload ∧ r'.atRest ∧
      out <+: r.curChunk ∧ (r'.state = .size ∨ r.curChunk = out ++ r'.curChunk) ∧
      (r.enc.length ≤ m → (1 ≤ cap ∨ r.payload = []) → r.state ≠ .ended → 0 < n) := by
  intro r hr tail m cap hw hf
  have hf' : fuelNeedS r.state ((r.enc ++ tail).take m).length ≤ fuel := by
    change fuelNeedS r.state m ≤ fuel at hf
    unfold fuelNeedS at hf ⊢
    rw [List.length_take]
    omega
  obtain ⟨r', n, out, h, p⟩ := parseInputS_adv fuel r hr tail m cap hw hf'
  exact ⟨r', n, out, h, p.adv.wf, p.used_le, p.out_le, p.adv.enc, p.adv.le, p.adv.payload, p.rest, p.inChunk, p.cur, p.live⟩

/-- the same for `read_chunked` and `Call::read`; the output stays inside one chunk only when stopping on boundaries -/
structure ReadPost (r : Rem) (m cap : Nat) (stop : Bool) (r' : Rem) (n : Nat) (out : Bytes) : Prop where
  adv : Adv r n out r'
  rest : r'.atRest
  used_le : n ≤ m
  out_le : out.length ≤ cap
  inChunk : stop = true → out <+: r.curChunk
  live : r.enc.length ≤ m → (1 ≤ cap ∨ r.payload = []) → r.state ≠ .ended → 0 < n

theorem readChunkedS_adv (fuel : Nat) (r : Rem) (hr : r.wf) (hrest : r.atRest) (tail : Bytes) (m cap : Nat)
    (stop : Bool) (hf : ((r.enc ++ tail).take m).length + 1 ≤ fuel) :
    Returns (readChunkedS fuel r.state ((r.enc ++ tail).take m) cap stop) (ReadPost r m cap stop) := by
  have hin : ∀ (r : Rem) (m cap : Nat), r.wf → r.atRest →
      Returns (parseInputS (2 * ((r.enc ++ tail).take m).length + 4) r.state ((r.enc ++ tail).take m) cap)
        (InnerPost r m cap) :=
    fun r m cap hr hrest => parseInputS_adv _ r hr tail m cap (winOk_of_atRest r hrest m) (fuelNeedS_le _ _)
  refine readChunkedS_rule (P := fun st src cap res => ∀ (r : Rem) (m : Nat), r.wf → r.atRest → st = r.state →
    src = (r.enc ++ tail).take m → Returns res (ReadPost r m cap stop)) stop ?_ ?_ ?_ fuel _ _ cap hf r m hr hrest rfl rfl
  · rintro _ _ cap st' e hp r m hr hrest rfl rfl
    obtain ⟨_, _, _, h, _⟩ := hin r m cap hr hrest
    rw [hp] at h
    cases h
  · rintro _ _ cap st' i o hp r m hr hrest rfl rfl
    obtain ⟨r₁, n₁, o₁, h, p⟩ := hin r m cap hr hrest
    rw [hp] at h
    exact ⟨r₁, n₁, o₁, h, { p with inChunk := fun _ => p.inChunk }⟩
  · rintro _ _ cap st' i o res hp hi hns ih r m hr hrest rfl rfl
    obtain ⟨r₁, n₁, o₁, h, p₁⟩ := hin r m cap hr hrest
    rw [hp] at h
    simp only [Prod.mk.injEq, Except.ok.injEq] at h
    obtain ⟨rfl, rfl, rfl⟩ := h
    obtain ⟨r₂, n₂, o₂, rfl, p₂⟩ := ih r₁ (m - i) p₁.adv.wf p₁.rest rfl (p₁.adv.window tail m)
    have hi₁ := p₁.used_le
    have ho₁ := p₁.out_le
    have hi₂ := p₂.used_le
    have ho₂ := p₂.out_le
    refine ⟨r₂, _, _, rfl,
      { adv := p₁.adv.trans p₂.adv
        rest := p₂.rest
        used_le := by omega
        out_le := by simp; omega
        inChunk := fun hs => ?_
        live := fun _ _ _ => by omega }⟩
    rcases p₁.cur with h | h
    · exact absurd h (hns hs)
    · rw [h]
      exact (List.prefix_append_right_inj _).mpr (p₂.inChunk hs)

theorem readChunkedS_inv (fuel : Nat) : ∀ (r : Rem), r.wf → r.atRest → ∀ (tail : Bytes) (m cap : Nat) (stop : Bool),
    m ≤ (r.enc ++ tail).length → m + 1 ≤ fuel →
    ∃ (r' : Rem) (n : Nat) (out : Bytes),
      readChunkedS fuel r.state ((r.enc ++ tail).take m) cap stop = (r'.state, .ok (n, out)) ∧
      r'.wf ∧ r'.atRest ∧ n ≤ m ∧ out.length ≤ cap ∧ r.enc.drop n = r'.enc ∧ n ≤ r.enc.length ∧
      r.payload = out ++ r'.payload ∧ (stop = true → out <+: r.curChunk) ∧
      (r.enc.length ≤ m → (1 ≤ cap ∨ r.payload = []) → r.state ≠ .ended → 0 < n) := by
  intro r hr hrest tail m cap stop hm hf
  obtain ⟨r', n, out, h, p⟩ := readChunkedS_adv fuel r hr hrest tail m cap stop (by rw [List.length_take]; omega)
  exact ⟨r', n, out, h, p.adv.wf, p.rest, p.used_le, p.out_le, p.adv.enc, p.adv.le, p.adv.payload, p.inChunk, p.live⟩

theorem callReadS_adv (r : Rem) (hr : r.wf) (hrest : r.atRest) (tail : Bytes) (m cap : Nat) (stop : Bool) :
    Returns (callReadS r.state ((r.enc ++ tail).take m) cap stop) (ReadPost r m cap stop) := by
  unfold callReadS
  split
  · rename_i hend
    exact ⟨r, 0, [], rfl,
      { adv := Adv.refl hr
        rest := hrest
        used_le := Nat.zero_le _
        out_le := Nat.zero_le _
        inChunk := fun _ => List.nil_prefix
        live := fun _ _ h => absurd (by simpa using hend) h }⟩
  · exact readChunkedS_adv _ r hr hrest tail m cap stop (by omega)

theorem runReads_adv (σ : List ReadStep) : ∀ (r : Rem), r.wf → r.atRest → ∀ (tail : Bytes),
    ∃ (r' : Rem) (used : Nat) (out : Bytes),
      runReads r.state (r.enc ++ tail) σ = some (r'.state, used, out) ∧ Adv r used out r' ∧ r'.atRest := by
  induction σ with
  | nil => exact fun r hr hrest _ => ⟨r, 0, [], rfl, Adv.refl hr, hrest⟩
  | cons s rest ih =>
    intro r hr hrest tail
    obtain ⟨r₁, n₁, o₁, hread, p⟩ := callReadS_adv r hr hrest tail s.m s.cap s.stop
    obtain ⟨r', used, out, hrun, a, hrest'⟩ := ih r₁ p.adv.wf p.rest tail
    exact ⟨r', _, _, by simp only [runReads, hread, p.adv.drop, hrun, Option.map_some], p.adv.trans a, hrest'⟩

/-- **C07** with the invariant kept in the conclusion, so that it composes; `C07` (Props/C07.lean) states the property -/
theorem C07_schedule (σ : List ReadStep) : ∀ (r : Rem), r.wf → r.atRest → ∀ (tail : Bytes),
    ∃ (r' : Rem) (used : Nat) (out : Bytes),
      runReads r.state (r.enc ++ tail) σ = some (r'.state, used, out) ∧
      r'.wf ∧ r'.atRest ∧ used ≤ r.enc.length ∧ r.enc.drop used = r'.enc ∧ r.payload = out ++ r'.payload ∧
      (r'.state = .ended ↔ used = r.enc.length) ∧
      (r'.state = .ended → out = r.payload ∧ (r.enc ++ tail).drop used = tail) := by
  intro r hr hrest tail
  obtain ⟨r', used, out, hrun, a, hrest'⟩ := runReads_adv σ r hr hrest tail
  exact ⟨r', used, out, hrun, a.wf, hrest', a.le, a.enc, a.payload, a.ended_iff hrest', fun he => a.of_ended he tail⟩

end V2
