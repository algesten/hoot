import Hoot.Spec.Head
import Hoot.Spec.Chunked
import Hoot.Spec.Request
import Hoot.Spec.Caller

/-! The class of exchanges the composed C01 theorems (and C10x, RedirectX) speak of (`XSetup`; `XSetupR` when the
    interim `100` is refused) and the one outcome they assign to it (`SendSpec`, `recvSpec`, `ReasonsSpec`). -/

structure SendSetup (f0 : Flow) (r : AReq) (wr0 : BodyWriter) (P : Bytes) : Prop where
  hst : f0.st = .prepare
  han : f0.call.analyzeRequest.2 = .ok ()
  hreq : f0.call.analyzeRequest.1.req = r
  -- `hana` and `hph` follow from `han` and `hph0` (`analyze_request` sets the flag and keeps the phase); they are
  -- carried so that the send lemmas need no fact about the analysis
  hana : f0.call.analyzeRequest.1.analyzed = true
  hph : f0.call.analyzeRequest.1.phase = .sendLine
  hph0 : f0.call.phase = .sendLine
  hwr : f0.call.analyzeRequest.1.writer = wr0
  hne : r.headers ≠ []
  hkind : (f0.holder = .withoutBody ∧ f0.shouldSendBody = false ∧ wr0 = BodyWriter.newNone ∧ P = []) ∨
          (f0.holder = .withBody ∧ f0.shouldSendBody = true ∧
             (wr0 = BodyWriter.newChunked ∨ wr0 = BodyWriter.newSized P.length))

/-- what every complete schedule puts on the wire: the rendered head, then nothing / the payload verbatim /
    a valid chunked coding of exactly the payload -/
def SendSpec (r : AReq) (wr0 : BodyWriter) (P : Bytes) (wire : Bytes) : Prop :=
  match wr0.mode with
  | .none => wire = renderHead r
  | .sized _ => wire = renderHead r ++ P
  | .chunked => ∃ cs : List Bytes, (∀ x ∈ cs, x ≠ []) ∧ wire = renderHead r ++ wireOf cs true ∧ cs.flatten = P

section
open V2

/-- what remains of a response body -/
inductive BPos
  | none
  | len (d : Bytes)
  | chunk (r : Rem)
  | close (d : Bytes)     -- close-delimited: everything until the connection ends

def BPos.enc : BPos → Bytes
  | .none => []
  | .len d => d
  | .chunk r => r.enc
  | .close d => d

def BPos.payload : BPos → Bytes
  | .none => []
  | .len d => d
  | .chunk r => r.payload
  | .close d => d

def BPos.reader : BPos → BodyReader
  | .none => .noBody
  | .len d => .len d.length
  | .chunk r => .chunked r.state
  | .close _ => .close

def BPos.good : BPos → Prop
  | .none => True
  | .len _ => True
  | .chunk r => r.wf ∧ r.atRest
  | .close _ => True

def BPos.isClose : BPos → Bool
  | .close _ => true
  | _ => false

def Head.parsed (h : Head) : RespHead :=
  { version := h.ver, status := h.codeVal, fields := fieldsOf (h.fields.map Field.pair) }

/-- a window of `m` unconsumed bytes, on a stream that starts with head `H`, which the partial-redirect
    fallback (finding D10) cannot misread; last disjunct: the window ends before the end of the first
    `Location` line. (The property itself assigns the remaining windows — inside a 3xx head after a complete
    Location line — to C05.) -/
def Head.safeWin (H : Head) (hack : Bool) (m : Nat) : Prop :=
  hack = false ∨ H.enc.length ≤ m ∨
  (¬ (300 ≤ H.codeVal ∧ H.codeVal ≤ 399) ∨
    (fieldsOf (H.fields.map Field.pair)).any (fun x => x.name == "location") = false) ∨
  (∃ (pre : List Field) (f : Field) (post : List Field), H.fields = pre ++ f :: post ∧
    (fieldsOf (pre.map Field.pair)).any (fun x => x.name == "location") = false ∧
    m < H.statusLine.length + (encFields pre).length + f.enc.length)

/-- `hn`: names within the `http` crate's limit; `hframe`: the framing of `H` for a request with method `m`,
    as the code computes it, is `b0` -/
structure RespOk (hack : Bool) (H : Head) (b0 : BPos) (m : Method) : Prop where
  hw : H.wf
  hs : H.fields.length ≤ 128
  hc : 100 ≤ H.codeVal
  h100 : H.codeVal ≠ 100
  hn : H.namesShort
  hb : b0.good
  hframe : forResponse (H.ver == 0) m H.codeVal (fieldsOf (H.fields.map Field.pair)) = .ok b0.reader

structure RecvSetup (hack : Bool) (H : Head) (b0 : BPos) (f0 : Flow) : Prop where
  resp : RespOk hack H b0 f0.call.req.method
  hst : f0.st = .recvResponse
  hh : f0.holder = .recvResponse
  hnd : f0.closeReasons.Nodup

def terminalSt (H : Head) : FState := if isRedirectStatus (some H.codeVal) then .redirect else .cleanup

/-- the reasons a complete exchange leaves recorded: the initial ones (HTTP/1.0, `Connection: close` on the
    request), `Connection: close` on the response, a close-delimited body — nothing else -/
def ReasonsSpec (f0 : Flow) (H : Head) (b0 : BPos) (l : List CloseReason) : Prop :=
  l.Nodup ∧ ∀ c, c ∈ l ↔ c ∈ f0.closeReasons ∨
    (c = .serverClose ∧ hasHdr H.parsed.fields "connection" "close" = true) ∨ (c = .closeDelimited ∧ b0.isClose = true)

def recvDone (f : Flow) : Bool := f.st == .redirect || f.st == .cleanup

/-- the one outcome every complete schedule produces -/
def recvSpec (H : Head) (b0 : BPos) : RecvObs :=
  { consumed := H.enc.length + b0.enc.length, head := some H.parsed, body := b0.payload, faults := 0 }

/-- bytes consumed before the receive side starts (an interim `100 Continue`) are counted on top -/
def RecvObs.shift (d : Nat) (o : RecvObs) : RecvObs := { o with consumed := o.consumed + d }

structure Interim (I : Head) : Prop where
  hw : I.wf
  hf : I.fields = []
  hc : I.codeVal = 100

end

/-- `pre`: the server's interim `100` in front of the response, exactly when the request carries
    `Expect: 100-continue` -/
structure XSetup (hack : Bool) (f0 : Flow) (r : AReq) (wr0 : BodyWriter) (P : Bytes) (I H : Head) (b0 : BPos) (pre : Bytes) : Prop where
  send : SendSetup f0 r wr0 P
  hnd : f0.closeReasons.Nodup
  resp : RespOk hack H b0 r.method
  int : Interim I
  hpre : (f0.await100 = true ∧ pre = I.enc) ∨ (f0.await100 = false ∧ pre = [])

/-- a step that lets every call make progress: everything the server will send has arrived, the buffer
    holds the longest head line and the smallest chunk (6 bytes) -/
def IoStep.full (r : AReq) (T : Nat) (s : IoStep) : Prop :=
  T ≤ s.m ∧ 6 ≤ s.cap ∧ ∀ u ∈ headUnits r, u.length ≤ s.cap

structure XSetupR (hack : Bool) (f0 : Flow) (r : AReq) (wr0 : BodyWriter) (P : Bytes) (F : Head) (b0 : BPos) : Prop where
  send : SendSetup f0 r wr0 P
  hnd : f0.closeReasons.Nodup
  resp : RespOk hack F b0 r.method
  haw : f0.await100 = true
