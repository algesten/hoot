import Hoot.Model.Flow

/-! The caller of the crate as the composed C01 theorems quantify over it: the loop every user of `Flow`
    writes. A model of the caller, not code of the crate. (The receive loop has a file of its own: in one
    file `recvStep` would share an auxiliary matcher of `sendStep`.) -/

def isOkTrue : Except Fault Bool → Bool
  | .ok true => true
  | _ => false

/-- one I/O event: `m` = how many of the pending bytes the caller presents (of the request payload while
    sending the body, of the unconsumed server stream while receiving), `cap` = the size of the buffer
    handed to the call (output buffer while sending, output space while reading) -/
structure IoStep where
  m : Nat
  cap : Nat
  /-- while awaiting `100 Continue`: the caller stops waiting (timeout) and sends the body -/
  giveUp : Bool := false

structure SendObs where
  wire : Bytes := []
  off : Nat := 0
  deriving DecidableEq, Repr

/-- In `SendBody` the caller offers the next `m + 1` pending payload bytes (an empty slice only when the
    payload is exhausted — the end-of-body signal). -/
def sendStep (hack : Bool) (P : Bytes) (x : Flow × SendObs) (s : IoStep) : Flow × SendObs :=
  match x.1.st with
  | .prepare => ((x.1.step hack .proceed).1, x.2)
  | .sendRequest =>
    match x.1.step hack (.write s.cap) with
    | (f1, .bytes _ out) =>
      (if isOkTrue f1.canProceed then (f1.step hack .proceed).1 else f1, { x.2 with wire := x.2.wire ++ out })
    | (f1, _) => (f1, x.2)
  | .sendBody =>
    match x.1.step hack (.bwrite ((P.drop x.2.off).take (s.m + 1)) s.cap) with
    | (f1, .bytes n out) =>
      (if isOkTrue f1.canProceed then (f1.step hack .proceed).1 else f1,
       { wire := x.2.wire ++ out, off := x.2.off + n })
    | (f1, _) => (f1, x.2)
  | _ => x

def sendRun (hack : Bool) (P : Bytes) (f : Flow) (σ : List IoStep) : Flow × SendObs := σ.foldl (sendStep hack P) (f, {})
