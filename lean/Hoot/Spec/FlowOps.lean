import Hoot.Spec.Flow

/-- from a resting state the chunked reader never panics and rests in a resting state; proved as `chunkTotal`
    (Proofs/ChunkTotal.lean) -/
def ChunkTotal : Prop :=
  ∀ (d : Dechunker) (src : Bytes) (cap : Nat) (stop : Bool), d ≠ .trailer →
    (readChunkedS (src.length + 2) d src cap stop).1 ≠ .trailer ∧
    (readChunkedS (src.length + 2) d src cap stop).2 ≠ .error .panic

structure Flow.WF (f : Flow) : Prop where
  -- the `unreachable!`s of holder.rs `as_*` and of flow.rs `SendRequest::{can_proceed, write, proceed}`, `Await100::proceed`
  holder : holderOk f
  -- with `nobody`: the `unwrap` in `into_receive` (a flow that owes no body holds the none-writer, which has ended)
  send : sendOk f
  -- the five slots of the close-reason `ArrayVec`
  nodup : f.closeReasons.Nodup
  -- the header `ArrayVec`: room for the two headers request analysis may derive
  cap : f.call.analyzed = true ∨ f.call.req.added.length + 2 ≤ MAX_EXTRA
  -- `header_count - 1` in call.rs `try_write_prelude`
  hdrs : f.call.analyzed = true → f.call.req.headers ≠ []
  -- the `assert!` of call.rs `into_send_body` (`send_body_despite_method`)
  prep : f.st = .prepare → f.call.analyzed = false ∧ f.call.phase = .sendLine
  -- no head byte is written before analysis, so `hdrs` covers every later head write
  ph : f.call.phase ≠ .sendLine → f.call.analyzed = true
  nobody : f.holder = .withoutBody →
    f.call.skipCheck = false ∧ f.call.req.method.needBody = false ∧ f.call.writer = BodyWriter.newNone
  -- body.rs `write` on `SenderMode::None`
  body : f.holder = .withBody → f.call.writer.mode ≠ .none
  -- in the body state `write` goes to the body writer; from Await100 `analyze_request()?` on the edge cannot fail
  sbody : f.st = .sendBody → f.call.phase = .sendBody ∧ f.call.analyzed = true
  await : f.st = .await100 → f.call.analyzed = true ∧ f.call.phase = .sendBody
  -- call.rs `reader.unwrap()`
  rdr : (f.st = .recvBody ∨ f.st = .redirect ∨ f.st = .cleanup) → f.call.reader.isSome = true
  -- flow.rs `status().unwrap()`
  stat : f.call.reader.isSome = true → f.status.isSome = true
  -- the `assert!` of chunk.rs: the decoder never rests in its trailer state (kept by `readChunkedS_total`)
  trl : f.call.reader ≠ some (.chunked .trailer)
  -- `assert!(should_send_body)` in `try_read_100`
  aw : f.st = .await100 → f.await100 = true → f.shouldSendBody = true
  -- keeps `ph` once the phase has left the head
  post : (f.st = .recvResponse ∨ f.st = .recvBody ∨ f.st = .redirect ∨ f.st = .cleanup) → f.call.analyzed = true

/-- protocol rules beyond the types: the documented header budget (`+ 3`: the header being added and the up to two
    that request analysis derives must fit the 64 slots, so the caller adds at most 62), and no `try_read_100` after
    `can_keep_await_100()` turned false -/
def Op.okFor (f : Flow) : Op → Prop
  | .header _ => f.call.req.added.length + 3 ≤ MAX_EXTRA
  | .read100 _ => f.await100 = true
  | _ => True

def isPanic : Res → Bool
  | .fault (.panic _) => true
  | _ => false

def noPanic (r : Res) : Prop := isPanic r = false

def Flow.preBody (f : Flow) : Prop := f.st = .prepare ∨ f.st = .sendRequest ∨ f.st = .await100

def Unsent (f : Flow) : Prop := f.holder = .withBody → f.preBody → f.call.writer.ended = false

def runOps (hack : Bool) (f : Flow) : List Op → Flow × List Res
  | [] => (f, [])
  | op :: ops => ((runOps hack (f.step hack op).1 ops).1, (f.step hack op).2 :: (runOps hack (f.step hack op).1 ops).2)

def okAlong (hack : Bool) (f : Flow) : List Op → Prop
  | [] => True
  | op :: ops => op.okFor f ∧ okAlong hack (f.step hack op).1 ops

/-- what can add a reason in one step -/
def closeEvent (hack : Bool) (f : Flow) (op : Op) (r : CloseReason) : Prop :=
  match f.st, op, r with
  | .await100, .read100 w, .not100 =>
    (∃ u resp, tryParseResponse 0 w = .ok (some (u, resp)) ∧ resp.status ≠ 100) ∨
    tryParseResponse 0 w = .error (.api .httpParseTooManyHeaders)
  | .recvResponse, .resp w, .serverClose =>
    f.holder = .recvResponse ∧
    ∃ u resp, (callTryResponse hack f.call w).2 = .ok (some (u, resp)) ∧ ¬ (resp.status = 100 ∧ f.await100 = true) ∧
      hasHdr resp.fields "connection" "close" = true
  | .recvResponse, .proceed, .closeDelimited =>
    f.canProceed = .ok true ∧ f.call.reader = some .close
  | _, _, _ => False

def eventsAlong (hack : Bool) (f : Flow) : List Op → CloseReason → Prop
  | [], _ => False
  | op :: ops, r => closeEvent hack f op r ∨ eventsAlong hack (f.step hack op).1 ops r
