import Hoot.Model.Flow

/-! What the request-side properties say the writer does: the head in the units `try_write_prelude` emits
    atomically (`headUnits`; C02, C16), then the chunked body (C03, C18, C19). -/

/-- header lines as written: the blank line is glued to the last header -/
def headerUnits : List Hdr → Nat → Nat → List Bytes
  | [], _, _ => []
  | h :: hs, idx, last => headerLine h (idx == last) :: headerUnits hs (idx + 1) last

def greedy : List Bytes → Nat → List Bytes
  | [], _ => []
  | u :: us, space => if u.length ≤ space then u :: greedy us (space - u.length) else []

def headUnits (r : AReq) : List Bytes :=
  requestLine r :: headerUnits r.headers 0 (r.headers.length - 1)

/-- the head the property describes -/
def renderHead (r : AReq) : Bytes :=
  requestLine r ++ (r.headers.map (fun h => strBytes (h.name ++ ": ") ++ h.value ++ crlf)).flatten ++ crlf

/-- position in `headUnits` that a phase stands for -/
def phasePos (count : Nat) : Phase → Nat
  | .sendLine => 0
  | .sendHeaders i => i + 1
  | _ => count + 1

def validPhase (count : Nat) : Phase → Prop
  | .sendLine => True
  | .sendHeaders i => i < count
  | .sendBody => True
  | _ => False

def headPos (c : CallSt) : Nat := phasePos c.req.headers.length c.phase

/-- a sequence of calls with the given buffer sizes; collects what was emitted (a failed call emits nothing) -/
def runHead (c : CallSt) : List Nat → CallSt × Bytes
  | [] => (c, [])
  | cap :: caps =>
    ((runHead (writePrelude c { out := [], cap := cap }).1 caps).1,
     (writePrelude c { out := [], cap := cap }).2.1.out ++ (runHead (writePrelude c { out := [], cap := cap }).1 caps).2)

/-- `hexLen` and `fitDown` are the length-level twins of the model's `hexLenB` and `fitDownB` (Model/Req.lean);
    `toHexB_length` and `fitDownB_eq` (Proofs/WriterLink.lean) bridge them -/
def hexLen (n : Nat) : Nat := if h : n < 16 then 1 else 1 + hexLen (n / 16)
termination_by n
decreasing_by omega

/-- cost of one chunk of `n` data bytes: size line, CRLF, data, CRLF; so the smallest chunk, one byte, takes 6
    (the `6 ≤ avail` of C19) -/
def frameLen (n : Nat) : Nat := hexLen n + 4 + n

/-- the countdown in the repaired `write_chunk` -/
def fitDown (avail : Nat) : Nat → Nat
  | 0 => 0
  | fit + 1 => if frameLen (fit + 1) > avail then fitDown avail fit else fit + 1

def maxFit (avail : Nat) : Nat := fitDown avail (avail - 5)

/-- body.rs `DEFAULT_CHUNK_SIZE`: `write_chunk` puts at most 10 KiB of data into one chunk -/
def MAXC : Nat := 10240

def chunkOf (inLen avail : Nat) : Nat := min inLen (min MAXC (maxFit avail))

/-- bytes of input consumed by one chunked `write` of `inLen` input bytes into `avail` output bytes -/
def consumedLen (inLen avail : Nat) : Nat :=
  if chunkOf inLen avail = 0 then 0
  else if inLen > chunkOf inLen avail then
    chunkOf inLen avail + consumedLen (inLen - chunkOf inLen avail) (avail - frameLen (chunkOf inLen avail))
  else chunkOf inLen avail
termination_by inLen
decreasing_by unfold chunkOf at *; omega

def frame (c : Bytes) : Bytes := toHexB c.length ++ crlf ++ c ++ crlf

def wireOf (cs : List Bytes) (ended : Bool) : Bytes := (cs.map frame).flatten ++ (if ended then termBytes else [])

def consumedBy (c : CallSt) (input : Bytes) (cap : Nat) : Nat :=
  match (c.writeBodyPhase input cap).2 with
  | .ok (n, _) => n
  | .error _ => 0

/-- a caller looping with a fixed buffer: `loopLen cap fuel rem` = input still unsent after at most
    `fuel` calls, at the length level (justified by `consumedBy_chunked`) -/
def loopLen (cap : Nat) : Nat → Nat → Nat
  | 0, rem => rem
  | fuel + 1, rem => if rem = 0 then 0 else loopLen cap fuel (rem - consumedLen rem cap)
