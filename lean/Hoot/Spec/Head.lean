import Hoot.Model.ReqParse

/-! The grammar of well-formed heads, as the properties about the two scanners and everything built on them
    quantify over it (C05, C11, C20, the composed C01 theorems). `namesShort` is the `http` crate's limit on
    the length of a header name; `keepNonEmpty` is what the partial parser keeps of the fields scanned so far
    (C20). -/

structure Field where
  name : Bytes'
  pre : Bytes'     -- OWS after the colon
  value : Bytes'   -- field content, no leading/trailing whitespace, may be empty
  post : Bytes'    -- OWS before CRLF

def Field.wf (f : Field) : Prop :=
  f.name ≠ [] ∧ (∀ b ∈ f.name, isNameTok b = true) ∧
  (∀ b ∈ f.pre, isWs b = true) ∧ (∀ b ∈ f.post, isWs b = true) ∧
  (∀ b ∈ f.value, isValueTok b = true) ∧
  (∀ b, f.value.head? = some b → isWs b = false) ∧
  (∀ b, f.value.getLast? = some b → isWs b = false)

def Field.enc (f : Field) : Bytes' := f.name ++ (58 :: (f.pre ++ (f.value ++ (f.post ++ [13, 10]))))

def Field.pair (f : Field) : Bytes' × Bytes' := (f.name, f.value)

def encFields (fs : List Field) : Bytes' := (fs.map Field.enc).flatten

/-- A response head. The status code is its three digit BYTES as they stand on the wire (`enc` needs no decimal
    printing); `codeVal` spells their value the way `respStep` accumulates it (`acc * 10 + (b - 48)` from 0), so the
    scanner's result is `codeVal` by `rfl`. `reason = none`: the status line ends right after the code, without SP;
    `some r`: SP and then `r` (possibly empty). -/
structure Head where
  ver : Nat
  d1 : UInt8
  d2 : UInt8
  d3 : UInt8
  reason : Option Bytes'
  fields : List Field

def isDigit (b : UInt8) : Prop := 48 ≤ b ∧ b ≤ 57

def Head.wf (h : Head) : Prop :=
  h.ver ≤ 1 ∧ isDigit h.d1 ∧ isDigit h.d2 ∧ isDigit h.d3 ∧
  (∀ r, h.reason = some r → ∀ b ∈ r, isReasonTok b = true) ∧ (∀ f ∈ h.fields, f.wf)

def Head.codeVal (h : Head) : Nat :=
  ((0 * 10 + (h.d1.toNat - 48)) * 10 + (h.d2.toNat - 48)) * 10 + (h.d3.toNat - 48)

def Head.reasonBytes (h : Head) : Bytes' := match h.reason with | none => [] | some r => 32 :: r

def Head.statusLine (h : Head) : Bytes' :=
  [72, 84, 84, 80, 47, 49, 46, (48 + h.ver).toUInt8, 32, h.d1, h.d2, h.d3] ++ (h.reasonBytes ++ [13, 10])

def Head.enc (h : Head) : Bytes' := h.statusLine ++ (encFields h.fields ++ [13, 10])

def Head.namesShort (h : Head) : Prop := ∀ f ∈ h.fields, f.name.length ≤ 65535

structure RHead where
  method : Bytes'
  target : Bytes'
  ver : Nat
  fields : List Field

def RHead.wf (h : RHead) : Prop :=
  h.method ≠ [] ∧ (∀ b ∈ h.method, isMethodTok b = true ∧ b ≠ 32) ∧
  h.target ≠ [] ∧ (∀ b ∈ h.target, isUriTok b = true) ∧ h.ver ≤ 1 ∧ (∀ f ∈ h.fields, f.wf)

def RHead.line (h : RHead) : Bytes' :=
  h.method ++ (32 :: (h.target ++ (32 :: [72, 84, 84, 80, 47, 49, 46, (48 + h.ver).toUInt8, 13, 10])))

def RHead.enc (h : RHead) : Bytes' := h.line ++ (encFields h.fields ++ [13, 10])

def RHead.namesShort (h : RHead) : Prop := ∀ f ∈ h.fields, f.name.length ≤ 65535

def keepNonEmpty (fs : List (Bytes' × Bytes')) : List (Bytes' × Bytes') :=
  fs.takeWhile (fun f => !f.1.isEmpty && !f.2.isEmpty)

def Field.wfb (f : Field) : Bool :=
  !f.name.isEmpty && f.name.all isNameTok && f.pre.all isWs && f.post.all isWs && f.value.all isValueTok &&
  (match f.value.head? with | some b => !isWs b | none => true) &&
  (match f.value.getLast? with | some b => !isWs b | none => true)

def Head.wfb (h : Head) : Bool :=
  decide (h.ver ≤ 1) && decide (48 ≤ h.d1 ∧ h.d1 ≤ 57) && decide (48 ≤ h.d2 ∧ h.d2 ≤ 57) && decide (48 ≤ h.d3 ∧ h.d3 ≤ 57) &&
  (match h.reason with | some r => r.all isReasonTok | none => true) && h.fields.all Field.wfb
