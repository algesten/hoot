import Hoot.Spec.CallerRecv

/-! The composed theorems (C01, C10x, RedirectX) are statements about `xRun`; the op `xrun` (Driver/XRun.lean)
    runs it against the same loop written in Rust on the real API. -/

/-- In `Await100` the caller presents what has arrived to `try_read_100` while the flow says keep waiting,
    and proceeds when it says stop — or when the caller's own timer fires (`giveUp`). -/
def xStep (hack : Bool) (P stream : Bytes) (x : Flow × SendObs × RecvObs) (s : IoStep) : Flow × SendObs × RecvObs :=
  match x.1.st with
  | .prepare | .sendRequest | .sendBody => ((sendStep hack P (x.1, x.2.1) s).1, (sendStep hack P (x.1, x.2.1) s).2, x.2.2)
  | .await100 =>
    if !x.1.await100 || s.giveUp then ((x.1.step hack .proceed).1, x.2.1, x.2.2)
    else
      match x.1.step hack (.read100 ((stream.drop x.2.2.consumed).take s.m)) with
      | (f1, .count n) => (f1, x.2.1, { x.2.2 with consumed := x.2.2.consumed + n })
      | (f1, _) => (f1, x.2.1, { x.2.2 with faults := x.2.2.faults + 1 })
  | .recvResponse | .recvBody => ((recvStep hack stream (x.1, x.2.2) s).1, x.2.1, (recvStep hack stream (x.1, x.2.2) s).2)
  | _ => x

def xRun (hack : Bool) (P stream : Bytes) (f : Flow) (σ : List IoStep) : Flow × SendObs × RecvObs :=
  σ.foldl (xStep hack P stream) (f, {}, {})
