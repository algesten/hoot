import Hoot.Model.Chunk2

/-! The grammar of valid chunked codings, as C07, C03rt and the composed C01 theorems quantify over it.
    `V2.Rem` is a position inside a coding: where a reader that has been handed part of the stream stands.
    `hexValue` says when the grammar's hypothesis "the size field parses to `val`" holds. -/

namespace V2

/-- `digits` is the size field as `parseSizeField` accepts it (`str::trim` and `usize::from_str_radix`: blanks
    around it and a leading `+` pass), not only hex digits; `ext` is a chunk extension from its `;` on -/
structure SizeLine where
  digits : Bytes
  ext : Bytes
  val : Nat

def isHexDigit (c : UInt8) : Prop := (hexVal c).isSome

/-- `≤ 20`: `read_size` of chunk.rs refuses a size line whose CRLF lies more than `SANITY_CHECK = 20` bytes in; the
    `21` and `100` of `readSize2` are its `unwrap_or(SANITY_CHECK + 1)` and the `take(100)` of its search for `;` -/
def SizeLine.wf (l : SizeLine) : Prop :=
  l.digits ≠ [] ∧ parseSizeField l.digits = .ok l.val ∧
  (∀ x ∈ l.digits, x ≠ CR ∧ x ≠ 59) ∧
  (l.ext = [] ∨ l.ext.head? = some 59) ∧ (∀ x ∈ l.ext, x ≠ CR) ∧
  l.digits.length + l.ext.length ≤ 20

def SizeLine.enc (l : SizeLine) : Bytes := l.digits ++ l.ext ++ [CR, LF]

structure Chunk where
  line : SizeLine
  data : Bytes

def Chunk.wf (c : Chunk) : Prop := c.line.wf ∧ c.line.val = c.data.length ∧ 0 < c.data.length
def Chunk.enc (c : Chunk) : Bytes := c.line.enc ++ c.data ++ [CR, LF]

def encChunks (cs : List Chunk) : Bytes := (cs.map Chunk.enc).flatten
def payloadOf (cs : List Chunk) : Bytes := (cs.map Chunk.data).flatten

def trailerWf (t : Bytes) : Prop := t ≠ [] ∧ ∀ x ∈ t, x ≠ CR
def encTrailers (ts : List Bytes) : Bytes := (ts.map (· ++ [CR, LF])).flatten

inductive Rem
  | atSize (cs : List Chunk) (last : SizeLine) (trs : List Bytes)
  | inChunk (d : Bytes) (cs : List Chunk) (last : SizeLine) (trs : List Bytes)
  | atCrlf (cs : List Chunk) (last : SizeLine) (trs : List Bytes)
  | atEnding (trs : List Bytes)
  | atTrailer (t : Bytes) (trs : List Bytes)
  | done

def tailWf (cs : List Chunk) (last : SizeLine) (trs : List Bytes) : Prop :=
  (∀ c ∈ cs, c.wf) ∧ last.wf ∧ last.val = 0 ∧ (∀ t ∈ trs, trailerWf t)

def Rem.wf : Rem → Prop
  | .atSize cs last trs => tailWf cs last trs
  | .inChunk d cs last trs => 0 < d.length ∧ tailWf cs last trs
  | .atCrlf cs last trs => tailWf cs last trs
  | .atEnding trs => ∀ t ∈ trs, trailerWf t
  | .atTrailer t trs => trailerWf t ∧ ∀ t ∈ trs, trailerWf t
  | .done => True

def encTail (cs : List Chunk) (last : SizeLine) (trs : List Bytes) : Bytes :=
  encChunks cs ++ (last.enc ++ (encTrailers trs ++ [CR, LF]))

def Rem.enc : Rem → Bytes
  | .atSize cs last trs => encTail cs last trs
  | .inChunk d cs last trs => d ++ ([CR, LF] ++ encTail cs last trs)
  | .atCrlf cs last trs => [CR, LF] ++ encTail cs last trs
  | .atEnding trs => encTrailers trs ++ [CR, LF]
  | .atTrailer t trs => t ++ ([CR, LF] ++ (encTrailers trs ++ [CR, LF]))
  | .done => []

def Rem.payload : Rem → Bytes
  | .atSize cs _ _ => payloadOf cs
  | .inChunk d cs _ _ => d ++ payloadOf cs
  | .atCrlf cs _ _ => payloadOf cs
  | .atEnding _ => []
  | .atTrailer _ _ => []
  | .done => []

def Rem.state : Rem → Dechunker
  | .atSize _ _ _ => .size
  | .inChunk d _ _ _ => .chunk d.length
  | .atCrlf _ _ _ => .crlf
  | .atEnding _ => .ending
  | .atTrailer _ _ => .trailer
  | .done => .ended

def Rem.curChunk : Rem → Bytes
  | .atSize (c :: _) _ _ => c.data
  | .inChunk d _ _ _ => d
  | _ => []

/-- window precondition: a transient trailer state always sees its line end -/
def Rem.winOk : Rem → Nat → Prop
  | .atTrailer t _, m => t.length + 2 ≤ m
  | _, _ => True

def Rem.atRest : Rem → Prop
  | .atTrailer _ _ => False
  | _ => True

/-- one caller step: offer the next `m` unconsumed bytes (clamped to what exists), `cap` bytes of output -/
structure ReadStep where
  m : Nat
  cap : Nat
  stop : Bool

/-- `Call::read` on a chunked body: short-circuit when ended -/
def callReadS (d : Dechunker) (w : Bytes) (cap : Nat) (stop : Bool) : Dechunker × Except Err (Nat × Bytes) :=
  if d == .ended then (d, .ok (0, [])) else readChunkedS (w.length + 2) d w cap stop

/-- the caller protocol: consumed bytes are dropped, the rest is re-presented -/
def runReads : Dechunker → Bytes → List ReadStep → Option (Dechunker × Nat × Bytes)
  | d, _, [] => some (d, 0, [])
  | d, stream, s :: rest =>
    match callReadS d (stream.take s.m) s.cap s.stop with
    | (d', .ok (n, out)) =>
      (runReads d' (stream.drop n) rest).map fun (d'', n', out') => (d'', n + n', out ++ out')
    | (_, .error _) => none

end V2

def isHexN (n : Nat) : Bool := (48 ≤ n && n ≤ 57) || (97 ≤ n && n ≤ 102) || (65 ≤ n && n ≤ 70)
def isHexB (b : UInt8) : Bool := isHexN b.toNat

def hexValN (n : Nat) : Nat := if 48 ≤ n ∧ n ≤ 57 then n - 48 else if 97 ≤ n ∧ n ≤ 102 then n - 87 else n - 55

def hexValue (ds : Bytes) : Nat := ds.foldl (fun acc b => acc * 16 + hexValN b.toNat) 0
