import Hoot.Model.Uri

/-! What the flow-level properties compare the typestate machine with. The oracles (Oracle/Heads.lean,
    Oracle/Redirect.lean) judge implementation traces against the same `rfcFraming` and `tableSpec`. -/

/-- the HTTP/1.1 message-body-length rules, written from the property text (C06) -/
def rfcFraming (respHttp10 : Bool) (m : Method) (status : Nat) (fr : Framing) : Except Fault BodyReader :=
  match fr.cl with
  | some none => .error (.api .badContentLengthHeader)
  | _ =>
    let declared : Option Nat := match fr.cl with | some (some n) => some n | _ => none
    let chunked := fr.chunked && !respHttp10
    if m == .head then .ok .noBody
    else if m == .connect && decide (200 ≤ status ∧ status ≤ 299) then .ok .noBody
    else if decide (100 ≤ status ∧ status ≤ 199) || status == 204 || status == 304 then .ok .noBody
    else if chunked then .ok (.chunked .size)
    else match declared with
      | some n => .ok (.len n)
      | none => if decide (300 ≤ status ∧ status ≤ 399) then .ok .noBody else .ok .close

def tableSpec (m : Method) (status : Nat) : Option Method :=
  if status = 307 ∨ status = 308 then
    (match m with | .post | .put | .patch | .delete => none | other => some other)
  else (match m with | .head => some .head | .get => some .get | _ => some .get)

/-- the ANSWER of `as_new_flow` as a function of the three things it reads off the flow: the body of `Flow.asNewFlow`
    (Model/Uri.lean) again, a projection of the model (`asNewFlow_res`), not an independent specification -/
def followRes (req : AReq) (location : Option Bytes) (status : Option Nat) (sameHost : Bool) : FollowRes :=
  match location with
  | none => .fault (.api .noLocationHeader)
  | some locB =>
    match toStr? locB with
    | none => .fault (.api .badLocationHeader)
    | some loc =>
      if req.taken then .fault (.panic "amended.rs take_request / base uri") else
      match status with
      | none => .fault (.panic "flow.rs status unwrap")
      | some status =>
        match resolve req.effUri (String.ofList (loc.map fun b => Char.ofNat b.toNat)) with
        | .outOfClass => .outOfClass
        | .err => .fault (.api .badLocationHeader)
        | .ok uri =>
          match newMethodOf req.method status with
          | none => .none
          | some nm => .flow (followFlow req nm uri sameHost)

def holderOk (f : Flow) : Prop :=
  match f.st with
  | .prepare | .sendRequest => f.holder = .withoutBody ∨ f.holder = .withBody
  | .await100 | .sendBody => f.holder = .withBody
  | .recvResponse => f.holder = .recvResponse
  | .recvBody | .redirect | .cleanup => f.holder = .recvBody

def sendOk (f : Flow) : Prop :=
  (f.st = .prepare ∨ f.st = .sendRequest) → (f.shouldSendBody = true ↔ f.holder = .withBody)

/-- the documented state graph (C09) -/
def graphSpec (f : Flow) : FState :=
  match f.st with
  | .prepare => .sendRequest
  | .sendRequest => if f.shouldSendBody then (if f.await100 then .await100 else .sendBody) else .recvResponse
  | .await100 => if f.shouldSendBody then .sendBody else .recvResponse
  | .sendBody => .recvResponse
  | .recvResponse =>
    if needResponseBody f.call.reader then .recvBody else if isRedirectStatus f.status then .redirect else .cleanup
  | .recvBody => if isRedirectStatus f.status then .redirect else .cleanup
  | .redirect => .cleanup
  | .cleanup => .cleanup

def noHolderPanic : Res → Prop
  | .fault (.panic s) => ¬ (s.startsWith "holder.rs" ∨ s.startsWith "flow.rs S" ∨ s.startsWith "flow.rs A")
  | _ => True

def successorSpec (rd : BodyReader) (status : Nat) : String :=
  match rd with
  | .noBody | .len 0 => if 300 ≤ status ∧ status ≤ 399 ∧ status ≠ 304 then "redirect" else "cleanup"
  | _ => "recvBody"
