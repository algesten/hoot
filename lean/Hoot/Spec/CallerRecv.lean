import Hoot.Spec.CallerSend

structure RecvObs where
  consumed : Nat := 0
  head : Option RespHead := none
  body : Bytes := []
  faults : Nat := 0
  deriving DecidableEq, Repr

def recvStep (hack : Bool) (stream : Bytes) (x : Flow × RecvObs) (s : IoStep) : Flow × RecvObs :=
  match x.1.st with
  | .recvResponse =>
    match x.1.step hack (.resp ((stream.drop x.2.consumed).take s.m)) with
    | (f1, .resp n (some r)) => ((f1.step hack .proceed).1, { x.2 with consumed := x.2.consumed + n, head := some r })
    | (f1, .resp n none) => (f1, { x.2 with consumed := x.2.consumed + n })
    | (f1, _) => (f1, { x.2 with faults := x.2.faults + 1 })
  | .recvBody =>
    match x.1.step hack (.bread ((stream.drop x.2.consumed).take s.m) s.cap) with
    | (f1, .bytes n out) =>
      -- proceed when the flow is ready; a close-delimited body is "ready" at any time, there the caller goes
      -- on until the connection has ended (nothing is left of the stream)
      (if isOkTrue f1.canProceed && (!(f1.call.reader == some .close) || (stream.drop (x.2.consumed + n)).isEmpty)
         then (f1.step hack .proceed).1 else f1,
       { x.2 with consumed := x.2.consumed + n, body := x.2.body ++ out })
    | (f1, _) => (f1, { x.2 with faults := x.2.faults + 1 })
  | _ => x

def recvRun (hack : Bool) (stream : Bytes) (f : Flow) (sched : List IoStep) : Flow × RecvObs :=
  sched.foldl (recvStep hack stream) (f, {})
