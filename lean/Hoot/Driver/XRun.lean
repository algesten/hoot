import Hoot.Driver.Replay
import Hoot.Spec.Caller

/-! The whole-exchange driver of the C01 composition theorems (`xRun`) as an op of the line protocol:
    `xrun <payload hex> <server stream hex> {m:cap:giveUp}` runs the caller loop on the session's flow. The
    harness runs the same loop on the real `Flow` API; the two summaries are compared like any other op. -/

def parseSched (ws : List String) : List IoStep :=
  ws.filterMap fun w =>
    match w.splitOn ":" with
    | [m, c, g] => do
      let m ← m.toNat?
      let c ← c.toNat?
      pure { m := m, cap := c, giveUp := g == "1" }
    | _ => none

def stepLineX (s : Sess) (l : String) : Sess × String :=
  let opText := (l.splitOn " => ").head!
  match opText.splitOn " " with
  | "xrun" :: p :: st :: sched =>
    if s.skip then (s, s!"{l} #out-of-class") else
    match s.flow with
    | some fl =>
      let r := xRun s.hack (unhex p) (unhex st) fl (parseSched sched)
      let o := r.2.2
      let hd := match o.head with | some h => toString h.status | none => "none"
      ({ s with flow := some r.1 },
       s!"{opText} => xrun wire={toHexOut s.full r.2.1.wire} off={r.2.1.off} consumed={o.consumed} head={hd} body={toHexOut s.full o.body} faults={o.faults} @{stName r.1.st}")
    | none => (s, s!"{opText} => str not-offered @gone")
  | _ => stepLine s l
